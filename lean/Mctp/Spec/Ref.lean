/-
L2: a reference decoder written directly on the bytes (no bit-field views, no slices), covering
EVERY input: inside the C09 claim it is the DSP0236/DSP0237 acceptance rule, outside it records
what the library does (its own response length table, and the finding classes where it panics).
`Refine.decode_eq_ref` (in `Lemmas/Decode.lean`) proves the model's decoder equal to it for all byte strings.
-/
import Mctp.Spec.Accept
namespace Mctp
namespace Spec

/-- the library's response length table, including the three entries outside the C09 claim -/
def respFixedLib (cmd : B) : Option Nat :=
  if cmd = 0x02#8 then some 4 else if cmd = 0x08#8 then some 4 else if cmd = 0x09#8 then some 1
  else respFixed cmd

/-- completion codes 1-5 -/
def ccOfByte (b : B) : CC :=
  if b = 0x01#8 then .error else if b = 0x02#8 then .errorInvalidData
  else if b = 0x03#8 then .errorInvalidLength else if b = 0x04#8 then .errorNotReady
  else if b = 0x05#8 then .errorUnsupportedCmd else .success

def refDecode (p : Bytes) : Out DErr Dec :=
  if p.length < 10 then .err (.invalid, .unknown)
  else if !hdrOk p then .err (.invalid, .unknown)
  else if !isControl p then
    if pecOk p then .ok (msgTypeOf p, 9, p.length - 10) else .err (msgTypeOf p, .ctl .pec)
  else if p.length < 12 then .err (.control, .ctl .len)
  else if isRequest p then
    if reqUnimpl (cmdOf p) then .panic ⟨.unimplemented, .traits⟩
    else if !pecOk p then .err (.control, .ctl .pec)
    else if !lenFits (reqFixed (cmdOf p)) (p.length - 12) then .err (.control, .ctl .len)
    else .ok (.control, 11, p.length - 12)
  else if p.length < 13 then .err (.control, .ctl .len)
  else if ccByte p ≠ 0x00#8 then
    if 6 ≤ (ccByte p).toNat then .panic ⟨.unreachable, .control⟩
    else .err (.control, .ctl (.cc (ccOfByte (ccByte p))))
  else if respUnimpl (cmdOf p) then .panic ⟨.unimplemented, .traits⟩
  else if !pecOk p then .err (.control, .ctl .pec)
  else if !lenFits (respFixedLib (cmdOf p)) (p.length - 13) then .err (.control, .ctl .len)
  else .ok (.control, 12, p.length - 13)

end Spec
end Mctp
