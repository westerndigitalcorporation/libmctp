/-
C04 — SMBus framing, byte count and reported length of encoded packets agree.
-/
import Mctp.Props.RefineEnc
import Mctp.Props.C17
namespace Mctp
namespace C04

theorem frame (c : Ctx) (dst : B) (e : Enc) (buf buf' : Bytes) (n : Nat)
    (h : encode c dst e buf = .ok (buf', n)) :
    Spec.frameOk c.address dst (buf'.take n) n = true := by
  obtain ⟨rfl, -, h250, -, -, ht⟩ := RefineEnc.encode_ok_frame h
  rw [ht]
  exact frameOk_frame _ _ _ h250

/-- the length probe on any prefix of at least three bytes returns the reported length -/
theorem probe_prefix (c : Ctx) (dst : B) (e : Enc) (buf buf' : Bytes) (n k : Nat)
    (h : encode c dst e buf = .ok (buf', n)) (hk : 3 ≤ k) :
    getLength ((buf'.take n).take k) = .ok n := by
  obtain ⟨rfl, -, h250, -, -, ht⟩ := RefineEnc.encode_ok_frame h
  have hc : ((Spec.libMessage c.respEid e).length + 5) % 256 = (Spec.libMessage c.respEid e).length + 5 :=
    Nat.mod_eq_of_lt (by omega)
  have hl : ¬ ((Mctp.frame c.address dst (Spec.libMessage c.respEid e)).take k).length < 3 := by
    rw [List.length_take, frame_length]; omega
  rw [ht, C17.spec, if_neg hl, byteAt_take _ _ _ (by omega), byteAt_take _ _ _ (by omega), frame_cons]
  show (if (0x0F#8 : B) = 0x0F#8 then Out.ok ((BitVec.ofNat 8 _).toNat + 4) else _) = _
  rw [if_pos rfl, BitVec.toNat_ofNat, hc]

/-- a message too large for the one-byte byte count is refused -/
theorem oversize (c : Ctx) (dst : B) (e : Enc) (buf : Bytes) (t : MsgType) (hd : Option Bytes) (d : Bytes)
    (hb : e.body c = .ok (t, hd, d)) (hbig : 250 < 1 + optLen hd + d.length) (hs : e.isStub = false) :
    encode c dst e buf = .err () := by
  have hg := genPacket_cases c.address dst t hd d buf
  rw [msgOf_length, if_pos hbig] at hg
  rw [encode_of_body hb hs, hg]

/-- hence no packet is ever encoded with a truncated count: reported lengths stay within 259 -/
theorem length_bound (c : Ctx) (dst : B) (e : Enc) (buf buf' : Bytes) (n : Nat)
    (h : encode c dst e buf = .ok (buf', n)) : 10 ≤ n ∧ n ≤ 259 := by
  obtain ⟨rfl, h1, h250, -⟩ := RefineEnc.encode_ok_frame h
  omega

end C04
end Mctp
