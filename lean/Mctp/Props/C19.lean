/-
C19 — wire code points map to the right enumeration values.
Each conversion is an `if` chain over the code points in table order, which is what `List.lookup` on the
literal table unrolls to (`apply_lookup_cons`); values, the Unknown / Invalid bytes and the panic above 5
are then read off the table.
-/
import Mctp.Model.Enums
import Mctp.Spec.Layout
namespace Mctp
namespace C19

theorem apply_lookup_cons {α β γ} [DecidableEq α] (f : Option β → γ) (a k : α) (v : β) (es : List (α × β)) :
    f (((k, v) :: es).lookup a) = if a = k then f (some v) else f (es.lookup a) := by
  rw [List.lookup_cons]
  by_cases h : a = k
  · rw [if_pos h, beq_iff_eq.mpr h]
  · rw [if_neg h, beq_eq_false_iff_ne.mpr h]

theorem mem_of_lookup {α β} [BEq α] [LawfulBEq α] {l : List (α × β)} {k : α} {v : β}
    (h : l.lookup k = some v) : (k, v) ∈ l := by
  obtain ⟨l₁, l₂, e, _⟩ := List.lookup_eq_some_iff.mp h
  rw [e]
  exact List.mem_append_right _ (List.mem_cons_self ..)

theorem value_of_table {α} (T : List (B × α)) (d : α) (ofB : B → α) (toB : α → B)
    (ht : ∀ b, ofB b = (T.lookup b).getD d) (hT : ∀ p ∈ T, toB p.2 = p.1) (b : B) (h : ofB b ≠ d) :
    toB (ofB b) = b := by
  rw [ht] at h ⊢
  cases hl : T.lookup b with
  | none =>
    rw [hl] at h
    exact absurd rfl h
  | some c => exact hT _ (mem_of_lookup hl)

theorem default_iff {α} (d : α) (ofB : B → α) (toB : α → B) (hi : ∀ v, v ≠ d → ofB (toB v) = v)
    (hv : ∀ b, ofB b ≠ d → toB (ofB b) = b) (b : B) : ofB b = d ↔ ∀ v, v ≠ d → toB v ≠ b := by
  constructor
  · intro h v hd hb
    rw [← hb, hi v hd] at h
    exact hd h
  · intro h
    exact Classical.byContradiction fun hne => h _ hne (hv b hne)

theorem cmd_table : ∀ b : B, Cmd.ofByte b = ((cmdTable.lookup b).getD .unknown) := by
  intro b
  simp only [cmdTable, apply_lookup_cons (Option.getD · Cmd.unknown)]
  rfl

theorem cmd_value : ∀ b : B, Cmd.ofByte b ≠ .unknown → (Cmd.ofByte b).toByte = b :=
  value_of_table cmdTable .unknown Cmd.ofByte Cmd.toByte cmd_table (by decide)

theorem cmd_inverts : ∀ v : Cmd, v ≠ .unknown → Cmd.ofByte v.toByte = v := by
  intro v; cases v <;> decide

theorem cmd_unknown_iff : ∀ b : B, Cmd.ofByte b = .unknown ↔ ∀ v : Cmd, v ≠ .unknown → v.toByte ≠ b :=
  default_iff .unknown Cmd.ofByte Cmd.toByte cmd_inverts cmd_value

theorem msg_table : ∀ b : B, MsgType.ofByte b = ((msgTable.lookup b).getD .invalid) := by
  intro b
  simp only [msgTable, apply_lookup_cons (Option.getD · MsgType.invalid)]
  rfl

theorem msg_value : ∀ b : B, MsgType.ofByte b ≠ .invalid → (MsgType.ofByte b).toByte = b :=
  value_of_table msgTable .invalid MsgType.ofByte MsgType.toByte msg_table (by decide)

theorem msg_inverts : ∀ v : MsgType, v ≠ .invalid → MsgType.ofByte v.toByte = v := by
  intro v; cases v <;> decide

theorem msg_invalid_iff : ∀ b : B, MsgType.ofByte b = .invalid ↔ ∀ v : MsgType, v ≠ .invalid → v.toByte ≠ b :=
  default_iff .invalid MsgType.ofByte MsgType.toByte msg_inverts msg_value

/-- the completion-code conversion is the table, and `unreachable!()` off it -/
theorem cc_lookup : ∀ b : B, CC.ofByte b =
    match ccTable.lookup b with
    | some c => .ok c
    | none => .panic ⟨.unreachable, .control⟩ := by
  intro b
  simp only [ccTable, apply_lookup_cons fun o : Option CC =>
    match o with | some c => (.ok c : Out Unit CC) | none => .panic ⟨.unreachable, .control⟩]
  rfl

/- `cc_lookup` is the statement to build on; here the default `.success` is never reached -/
theorem cc_table : ∀ b : B, b.toNat ≤ 5 → CC.ofByte b = .ok ((ccTable.lookup b).getD .success) := by
  apply forall_byte; decide +kernel

theorem cc_inverts : ∀ v : CC, CC.ofByte v.toByte = .ok v := by
  intro v; cases v <;> decide

theorem cc_value : ∀ b : B, ∀ v, CC.ofByte b = .ok v → v.toByte = b := by
  intro b v h
  rw [cc_lookup] at h
  split at h
  next c hl => cases h; exact (by decide : ∀ p ∈ ccTable, p.2.toByte = p.1) _ (mem_of_lookup hl)
  next => cases h

/-- finding D10: completion codes above 5 reach `unreachable!()` -/
theorem cc_above_five_panics : ∀ b : B, 6 ≤ b.toNat → CC.ofByte b = .panic ⟨.unreachable, .control⟩ := by
  intro b h
  have hn : ccTable.lookup b = none := by
    rw [List.lookup_eq_none_iff]
    intro p hp
    have hk : p.1.toNat ≤ 5 := (by decide : ∀ p ∈ ccTable, p.1.toNat ≤ 5) p hp
    exact bne_iff_ne.mpr fun e => by rw [e] at h; omega
  rw [cc_lookup, hn]

-- non-vacuity: the tables really are hit
example : Cmd.ofByte 0x0F#8 = .queryHop ∧ Cmd.ofByte 0x15#8 = .unknown ∧ MsgType.ofByte 0x7E#8 = .pci := by decide

end C19
end Mctp
