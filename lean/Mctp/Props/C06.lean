/-
C06 — control request bodies follow the DSP0236 command layouts (partial: finding D5, query_hop).
-/
import Mctp.Props.RefineEnc
namespace Mctp
namespace C06

/-- bytes 9 .. n-2 of an encoded packet: the message after its type byte -/
theorem sub9 {c : Ctx} {dst : B} {e : Enc} {buf buf' : Bytes} {n : Nat}
    (h : encode c dst e buf = .ok (buf', n)) :
    Spec.sub (buf'.take n) 9 (n - 1) = (Spec.libMessage c.respEid e).drop 1 := by
  obtain ⟨rfl, -, -, -, -, ht⟩ := RefineEnc.encode_ok_frame h
  rw [ht]
  exact sub_frame _ _ _ 1

/-- every request encoder except `query_hop`: the bytes between the message-type byte and
the PEC are exactly the DSP0236 layout -/
theorem body_partial (c : Ctx) (dst : B) (e : Enc) (buf buf' body : Bytes) (n : Nat)
    (hq : ∀ a t, e ≠ .reqQueryHop a t) (ha : Spec.argsOk e = true)
    (hb : Spec.reqBody e = some body)
    (h : encode c dst e buf = .ok (buf', n)) :
    Spec.sub (buf'.take n) 9 (n - 1) = body := by
  rw [sub9 h, RefineEnc.libMessage_req hb hq ha]
  rfl

/-- finding D5: `query_hop` carries command code 0x0E (Get Network ID) instead of 0x0F;
everything else of its body is as specified -/
theorem query_hop_code (c : Ctx) (dst a t : B) (buf buf' : Bytes) (n : Nat)
    (h : encode c dst (.reqQueryHop a t) buf = .ok (buf', n)) :
    Spec.sub (buf'.take n) 9 (n - 1) = [0x80#8, 0x0E#8, a, t] := by
  rw [sub9 h]
  rfl

/-- the full statement fails exactly there -/
theorem query_hop_violates (c : Ctx) (dst a t : B) (buf buf' : Bytes) (n : Nat)
    (h : encode c dst (.reqQueryHop a t) buf = .ok (buf', n)) :
    some (Spec.sub (buf'.take n) 9 (n - 1)) ≠ Spec.reqBody (.reqQueryHop a t) := by
  rw [query_hop_code c dst a t buf buf' n h]
  show some _ ≠ some [0x80#8, 0x0F#8, a, t]
  simp

end C06
end Mctp
