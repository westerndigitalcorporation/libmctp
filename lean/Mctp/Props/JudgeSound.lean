/-
Soundness of the executable judge (`Mctp/Spec/Judge.lean`) with respect to the model: whatever the
input, judging the MODEL's own observation never yields `fail` — at worst `known:<finding>`.
This is the static counterpart of the `M:` tripwire the driver evaluates on every line, and it is what
lets a verdict `fail` on the implementation's observation be read as "the implementation deviates from
something that is proved of the model".
-/
import Mctp.Props.C02
import Mctp.Props.C09
import Mctp.Props.C10
import Mctp.Props.C11
import Mctp.Props.C12
import Mctp.Props.AnyBuffer
import Mctp.Props.C17
import Mctp.Lemmas.Verdict
namespace Mctp
namespace JudgeSound

/-- whatever the buffer: a reported response is a response packet for the request -/
theorem written (c : Ctx) (p buf : Bytes) (d : Dec) (n : Nat)
    (h : (process c p buf).2.1 = .ok (d, some n)) :
    ∃ cc rest, n = 13 + rest.length ∧ rest.length ≤ 246 ∧
      (process c p buf).2.2.take n = Proc.respPkt c.address (byteAt p 6) (byteAt p 10) (cc :: rest) := by
  obtain ⟨-, -, cc, f, -, h246, rfl, hp⟩ := Proc.process_ok_some h
  exact ⟨cc, f, rfl, h246, by rw [hp, Proc.respPkt_eq_frame]; exact take_resp_frame ..⟩

theorem written_respondsTo {c : Ctx} {p buf : Bytes} {d : Dec} {n : Nat}
    (h : (process c p buf).2.1 = .ok (d, some n)) :
    Spec.respondsTo c.address p ((process c p buf).2.2.take n) n = true := by
  obtain ⟨cc, rest, rfl, h246, ht⟩ := written c p buf d n h
  rw [ht, Proc.respPkt_eq_frame]
  exact Proc.respondsTo_frame c.address p cc rest h246

/-- the response clause of C13/C14/C15: under the judge's precondition (a valid configuration and a
buffer that holds the prescribed response) an answerable request gets the prescribed body; `g`
selects the property's commands -/
theorem answer_clause (c : Ctx) (p buf : Bytes) {g : Bool} {w w' : String} :
    isFail (if (Spec.configOk c && Refine.respFits (specOf c) p buf && Spec.answerable c.vendorIds.length p && g) = true then
      match (process c p buf).2.1, Spec.expectedResponse (specOf c) p with
      | .ok (_, some n), some body => Spec.chk (Spec.respBody (process c p buf).2.2 n == body) w
      | _, _ => .fail w'
      else .na) = false := by
  split
  · rename_i hp
    simp only [Bool.and_eq_true] at hp
    obtain ⟨d, body, h1, h2, h3, -⟩ := Refine.answerable_answered c p buf hp.1.1.1 hp.1.1.2 hp.1.2
    rw [show Spec.expectedResponse (specOf c) p = some body from h1, h2]
    exact isFail_chk_beq h3
  · rfl

/-- decoder: for every property the judge knows and every byte string -/
theorem dec_model (prop : String) (p : Bytes) :
    isFail (Spec.judgeDec prop p (decode p) false) = false := by
  unfold Spec.judgeDec
  split
  · -- C02
    split
    · rename_i r hd
      exact isFail_chk (C02.decode_ok_pec p r hd)
    · split <;> rfl
  · -- C09
    split
    · rename_i hc
      have hacc := C09.accept_iff p hc
      cases hd : decode p with
      | ok r =>
        obtain ⟨t, off, len⟩ := r
        obtain ⟨rfl, rfl, h3, h4⟩ := C09.payload p t off len hd
        have h10 := (C09.inClaim_inv hc).1
        refine isFail_and (isFail_chk (by rw [← hacc, hd]; rfl)) (isFail_chk ?_)
        simp only [Bool.not_false, Bool.true_and, beq_self_eq_true, beq_iff_eq]
        omega
      | err e =>
        exact isFail_and (isFail_chk (by rw [← hacc, hd]; rfl)) (isFail_chk (C09.truthful p e hc hd))
      | panic k =>
        rw [Spec.inClaim, (C10.decode_panic_iff p k).mp hd] at hc
        simp at hc
    · rfl
  · -- C10
    split
    · rename_i k hd
      rw [(C10.decode_panic_iff p k).mp hd]
      exact isFail_if_pos (beq_self_eq_true _) rfl
    · rfl
  · rfl

theorem length_clause (p : Bytes) :
    isFail (match getLength p with
      | .panic _ => .fail "panic"
      | .ok n => Spec.chk (decide (3 ≤ p.length) && byteAt p 1 == 0x0F#8 && n == (byteAt p 2).toNat + 4) "length"
      | .err (t, _) => Spec.chk ((decide (p.length < 3) || byteAt p 1 != 0x0F#8) && t == .invalid) "error") = false := by
  rw [C17.spec]
  by_cases h3 : p.length < 3
  · rw [if_pos h3]
    exact isFail_chk (by rw [decide_eq_true h3]; rfl)
  · rw [if_neg h3]
    by_cases h1 : byteAt p 1 = 0x0F#8
    · rw [if_pos h1]
      exact isFail_chk (by simp only [h1, beq_self_eq_true, Bool.and_true, decide_eq_true_eq]; omega)
    · rw [if_neg h1]
      exact isFail_chk (by rw [bne_iff_ne.mpr h1, Bool.or_true]; rfl)

theorem len_model (prop : String) (p : Bytes) :
    isFail (Spec.judgeLen prop p (getLength p)) = false := by
  unfold Spec.judgeLen
  split
  · exact length_clause p
  · exact length_clause p
  · split
    · rename_i k hd
      have := C10.getLength_never_panics p
      rw [hd] at this
      cases this
    · rfl
  · rfl

/-- request processor: every property, every context, packet and buffer -/
theorem proc_model (prop : String) (c : Ctx) (p buf : Bytes) :
    let r := process c p buf
    isFail (Spec.judgeProc prop (specOf c) p buf r.2.1 false r.2.2 (r.1.reqEid, r.1.respEid)) = false := by
  intro r
  unfold Spec.judgeProc
  extract_lets pre nv
  have hpre : pre = (Spec.configOk c && Refine.respFits (specOf c) p buf) := rfl
  have hnv : nv = c.vendorIds.length := rfl
  split
  · -- C02
    split
    · rename_i d ho
      exact isFail_chk (C02.process_ok_pec c p buf d ho)
    · split
      · rfl
      · rename_i hp
        obtain ⟨r', hr, -⟩ := C02.bad_pec_inert c p buf (eq_false_of_ne_true hp)
        refine isFail_chk ?_
        show ((process c p buf).2.2 == buf && ((process c p buf).1.reqEid, (process c p buf).1.respEid) == _) = true
        rw [hr, beq_self_eq_true, Bool.true_and]
        exact beq_self_eq_true _
  · -- C03
    split
    · rename_i ho
      exact isFail_chk (Proc.respondsTo_wire (written_respondsTo ho)).2.1
    · rfl
  · -- C04
    split
    · rename_i ho
      exact isFail_chk (Proc.respondsTo_wire (written_respondsTo ho)).1
    · rfl
  · -- C05
    split
    · rename_i ho
      exact isFail_chk (Proc.respondsTo_wire (written_respondsTo ho)).2.2
    · rfl
  · -- C10
    by_cases hp : pre = true
    · rw [if_pos hp]
      rw [hpre, Bool.and_eq_true] at hp
      split
      · rename_i k ho
        rw [hnv, (Refine.process_panic_iff c p buf k hp.1 hp.2).mp ho]
        exact isFail_if_pos (beq_self_eq_true _) rfl
      · rfl
    · rw [if_neg hp]
      rfl
  · -- C11
    split
    · rename_i t off len n ho
      obtain ⟨h1, h2, h3, h4⟩ := C11.response_frame c p buf _ n ho
      exact isFail_chk (by rw [h1, h2, h3, decide_eq_true h4, beq_self_eq_true, beq_self_eq_true]; rfl)
    · rename_i d ho
      obtain ⟨h1, -, h2⟩ := Proc.process_ok_none ho
      exact isFail_chk (by rw [h1, show r = _ from h2, beq_self_eq_true]; rfl)
    · rename_i e ho
      refine isFail_chk_beq (C11.no_response_frame c p buf fun d n hx => ?_)
      rw [hx] at ho
      cases ho
    · rfl
  · -- C12
    by_cases hp : (pre && Spec.answerable nv p) = true
    · rw [if_pos hp]
      rw [hpre, hnv] at hp
      simp only [Bool.and_eq_true] at hp
      obtain ⟨d, body, -, h2, -, h4⟩ := Refine.answerable_answered c p buf hp.1.1 hp.1.2 hp.2
      rw [show r.2.1 = _ from h2]
      have hz := C12.instance_zero c p buf r.2.2 r.1 d _ (by rw [← h2])
      exact isFail_and (isFail_chk h4) (isFail_ite rfl (isFail_if_pos (beq_iff_eq.mpr hz) rfl))
    · rw [if_neg hp]
      rfl
  · -- C13
    exact isFail_and (isFail_chk_beq (AnyBuffer.step c (.process p buf))) (answer_clause c p buf)
  · -- C14
    exact answer_clause c p buf
  · -- C15
    exact answer_clause c p buf
  · rfl

/-- every operation under every property: the judge's only clause here is C13's, and the EID bookkeeping
follows the specification along any operation (`AnyBuffer.step`) -/
theorem step_model (prop : String) (c : Ctx) (op : Op) :
    isFail (Spec.judgeSet prop (specOf c) op ((stepOp c op).1.reqEid, (stepOp c op).1.respEid)) = false := by
  unfold Spec.judgeSet
  split
  · exact isFail_chk_beq (AnyBuffer.step c op)
  · rfl

theorem set_model (c : Ctx) (op : Op) (h : (∃ e, op = .setEidReq e) ∨ (∃ e, op = .setEidResp e) ∨ (∃ u, op = .setUuid u)) :
    isFail (Spec.judgeSet "C13" (specOf c) op ((stepOp c op).1.reqEid, (stepOp c op).1.respEid)) = false :=
  have _ := h   -- not needed: the clause holds for every operation (`step_model`)
  step_model "C13" c op

theorem specOf_step (c : Ctx) (op : Op) : specOf (stepOp c op).1 = (specOf c).step op := by
  obtain ⟨h1, h2, h3, h4⟩ := Proc.stepOp_fields c op
  unfold specOf Spec.SpecSt.step
  rw [h1, h2, h3, h4, AnyBuffer.step c op]

end JudgeSound
end Mctp
