/-
Refinement of the whole transmit path: the model's pure encoder equals the reference encoder for
EVERY call, and — through C16's refinement of the pure form by the buffer-writing form — an encoder call on
a caller buffer is the reference packet spliced over the front of the buffer.  C03-C08 are corollaries.
-/
import Mctp.Props.C16
namespace Mctp
namespace RefineEnc

theorem refEncode_cases (a r dst : B) (e : Enc) :
    (Spec.documentedInvalid e = true ∧ Spec.refEncode a r dst e = .err ()) ∨
    (Spec.documentedInvalid e = false ∧ e.isStub = true ∧
      Spec.refEncode a r dst e = .panic ⟨.unimplemented, .request⟩) ∨
    (Spec.documentedInvalid e = false ∧ (∃ cc sel vid, e = .respVendor cc sel vid ∧ 7 < vid.length) ∧
      Spec.refEncode a r dst e = .panic ⟨.indexOOB, .response⟩) ∨
    (Spec.documentedInvalid e = false ∧ e.isStub = false ∧ (∀ cc sel vid, e = .respVendor cc sel vid → vid.length ≤ 7) ∧
      Spec.refEncode a r dst e =
        if 250 < (Spec.libMessage r e).length then .err () else .ok (frame a dst (Spec.libMessage r e))) := by
  unfold Spec.refEncode
  by_cases hd : Spec.documentedInvalid e = true
  · exact .inl ⟨hd, if_pos hd⟩
  right
  have hd' : Spec.documentedInvalid e = false := by simpa using hd
  rw [if_neg hd]
  split
  · rename_i cc sel vid
    by_cases hv : 7 < vid.length
    · exact .inr (.inl ⟨hd', ⟨_, _, _, rfl, hv⟩, if_pos hv⟩)
    · refine .inr (.inr ⟨hd', rfl, fun _ _ _ h => by cases h; omega, ?_⟩)
      have hm : Spec.libMessage r (.respVendor cc sel vid) = 0x00#8 :: 0x00#8 :: 0x06#8 :: cc :: sel :: vid := rfl
      have hl : ¬ 250 < (Spec.libMessage r (.respVendor cc sel vid)).length := by
        rw [hm]; simp only [List.length_cons]; omega
      rw [if_neg hv, if_neg hl]; rfl
  -- the three stubs
  · exact .inl ⟨hd', rfl, rfl⟩
  · exact .inl ⟨hd', rfl, rfl⟩
  · exact .inl ⟨hd', rfl, rfl⟩
  · -- every other call: `h1` says it is no `respVendor`, `h2` … `h4` that it is none of the stubs
    rename_i h1 h2 h3 h4
    have hs : e.isStub = false := by
      cases e <;> first | rfl | exact absurd rfl h2 | exact absurd rfl h3 | exact absurd rfl h4
    exact .inr (.inr ⟨hd', hs, fun cc sel vid h => absurd h (h1 cc sel vid), rfl⟩)

theorem refEncode_ok_inv {a r dst : B} {e : Enc} {pkt : Bytes} (h : Spec.refEncode a r dst e = .ok pkt) :
    pkt = frame a dst (Spec.libMessage r e) ∧ (Spec.libMessage r e).length ≤ 250 := by
  rcases refEncode_cases a r dst e with ⟨-, hr⟩ | ⟨-, -, hr⟩ | ⟨-, -, hr⟩ | ⟨-, -, -, hr⟩ <;> rw [hr] at h
  · cases h
  · cases h
  · cases h
  · split at h
    · cases h
    · exact ⟨(Out.ok.inj h).symm, by omega⟩

theorem encodeBytes_eq_ref (c : Ctx) (dst : B) (e : Enc) :
    encodeBytes c dst e = Spec.refEncode c.address c.respEid dst e := by
  rcases refEncode_cases c.address c.respEid dst e with
    ⟨hd, hr⟩ | ⟨-, hs, hr⟩ | ⟨-, ⟨cc, sel, vid, rfl, hv⟩, hr⟩ | ⟨hd, hs, hv, hr⟩ <;> rw [hr]
  · unfold encodeBytes
    rw [(body_err_iff c e).mpr hd, Out.bind_err]
  · cases e <;> first | (cases hs; done) | rfl
  · unfold encodeBytes
    simp only [Enc.body, if_pos hv]
    rfl
  · obtain ⟨t, h, d, hb, hm⟩ := body_msg c e hd hv
    rw [← hm]
    unfold encodeBytes
    rw [hb, Out.bind_ok]
    simp only [hs, msgOf_length, packetBytes_eq_frame]
    rfl

/-- on a buffer at least as long as the packet, the call writes exactly the reference packet -/
theorem encode_eq_ref (c : Ctx) (dst : B) (e : Enc) (buf pkt : Bytes)
    (h : Spec.refEncode c.address c.respEid dst e = .ok pkt) (hl : pkt.length ≤ buf.length) :
    encode c dst e buf = .ok (pkt ++ buf.drop pkt.length, pkt.length) :=
  C16.refine c dst e buf pkt ((encodeBytes_eq_ref ..).trans h) hl

/-- refusals do not depend on the buffer -/
theorem encode_err_iff_ref (c : Ctx) (dst : B) (e : Enc) (buf : Bytes) :
    encode c dst e buf = .err () ↔ Spec.refEncode c.address c.respEid dst e = .err () := by
  rw [C16.err_iff, encodeBytes_eq_ref]

/-- every successful call wrote the frame around the reference message over the front of the buffer -/
theorem encode_ok_frame {c : Ctx} {dst : B} {e : Enc} {buf buf' : Bytes} {n : Nat}
    (h : encode c dst e buf = .ok (buf', n)) :
    n = (Spec.libMessage c.respEid e).length + 9 ∧ 1 ≤ (Spec.libMessage c.respEid e).length ∧
      (Spec.libMessage c.respEid e).length ≤ 250 ∧ n ≤ buf.length ∧
      buf' = frame c.address dst (Spec.libMessage c.respEid e) ++ buf.drop n ∧
      buf'.take n = frame c.address dst (Spec.libMessage c.respEid e) := by
  obtain ⟨pkt, hp, rfl, hl, rfl⟩ := C16.ok_inv c dst e buf buf' n h
  have h10 := encodeBytes_ok_length hp
  obtain ⟨rfl, h250⟩ := refEncode_ok_inv ((encodeBytes_eq_ref ..).symm.trans hp)
  rw [frame_length] at h10
  exact ⟨frame_length _ _ _, by omega, h250, hl, rfl, List.take_left' rfl⟩

theorem encode_ok_take {c : Ctx} {dst : B} {e : Enc} {buf buf' : Bytes} {n : Nat}
    (h : encode c dst e buf = .ok (buf', n)) :
    buf'.take n = frame c.address dst (Spec.libMessage c.respEid e) :=
  (encode_ok_frame h).2.2.2.2.2

theorem libMessage_req {r : B} {e : Enc} {body : Bytes} (hr : Spec.reqBody e = some body)
    (hq : ∀ a t, e ≠ .reqQueryHop a t) (ha : Spec.argsOk e = true) : Spec.libMessage r e = 0x00#8 :: body := by
  cases e <;> first | (cases hr; done) | (cases hr; rfl) | skip
  case reqRouting es =>
    cases hr
    have : 4 * (es.length / 4) = es.length := by simp [Spec.argsOk] at ha; omega
    show 0x00#8 :: 0x80#8 :: 0x09#8 :: BitVec.ofNat 8 (es.length / 4) :: es.take (4 * (es.length / 4)) = _
    rw [this, List.take_length]
  case reqQueryHop a t => exact absurd rfl (hq a t)

theorem reqBody_of_respFields {r : B} {e : Enc} {x : B × B × Bytes} (hf : Spec.respFields r e = some x) :
    Spec.reqBody e = none := by
  cases e <;> first | rfl | cases hf

theorem libMessage_resp {r : B} {e : Enc} {cmd cc : B} {f : Bytes} (hf : Spec.respFields r e = some (cmd, cc, f)) :
    Spec.libMessage r e = 0x00#8 :: 0x00#8 :: cmd :: cc :: f := by
  cases e <;> first | (cases hf; done) | (cases hf; rfl)

theorem libMessage_vendor {r : B} {e : Enc} {fr : Bytes} (hv : Spec.vendorFrame e = some fr) :
    Spec.libMessage r e = fr := by
  cases e <;> first | (cases hv; done) | (cases hv; rfl) | skip
  case vendorDefined v m => exact congrArg (·.getD []) hv
  case genSpdm t h d => cases t <;> first | (cases hv; done) | (cases hv; rfl)

theorem libMessage_type {r : B} {e : Enc} {tb : B} (ht : Spec.typeByte e = some tb) :
    ∃ rest, Spec.libMessage r e = tb :: rest := by
  cases e <;> first | (cases ht; exact ⟨_, rfl⟩) | skip
  case vendorDefined v m =>
    change (if v.format = 0#8 then some 0x7E#8 else if v.format = 1#8 then some 0x7F#8 else none) = some tb at ht
    show ∃ rest, (Spec.vendorFrame (.vendorDefined v m)).getD [] = tb :: rest
    unfold Spec.vendorFrame
    by_cases h0 : v.format = 0#8
    · rw [if_pos h0] at ht; cases ht; simp only [if_pos h0]; exact ⟨_, rfl⟩
    · by_cases h1 : v.format = 1#8
      · rw [if_neg h0, if_pos h1] at ht; cases ht; simp only [if_neg h0, if_pos h1]; exact ⟨_, rfl⟩
      · rw [if_neg h0, if_neg h1] at ht; cases ht
  case genSpdm t h d => cases t <;> first | (cases ht; done) | (cases ht; exact ⟨_, rfl⟩)

/-- the reference packet of a response encoder call with fields `f` (`hf`) that is not documented-invalid (`hd`),
not a vendor-ID field of more than 7 bytes (`hv`) and fits the frame (`hl`: 250 message bytes, four of them
before the fields) -/
theorem refEncode_resp {a r dst : B} {e : Enc} {cmd cc : B} {f : Bytes} (hf : Spec.respFields r e = some (cmd, cc, f))
    (hd : Spec.documentedInvalid e = false) (hv : ∀ cc sel vid, e = .respVendor cc sel vid → vid.length ≤ 7)
    (hl : f.length ≤ 246) :
    Spec.refEncode a r dst e = .ok (frame a dst (0x00#8 :: 0x00#8 :: cmd :: cc :: f)) := by
  rcases refEncode_cases a r dst e with ⟨hd', -⟩ | ⟨-, hs, -⟩ | ⟨-, ⟨cc', sel, vid, rfl, hv'⟩, -⟩ | ⟨-, -, -, hr⟩
  · rw [hd] at hd'; cases hd'
  · cases e <;> first | (cases hs; done) | cases hf
  · have := hv _ _ _ rfl; omega
  · rw [hr, libMessage_resp hf, if_neg (by simp only [List.length_cons]; omega)]

/-! the reference packets of the six response encoders, with the arguments the request processor gives them
(the completion code left a variable) -/

theorem ref_setEid {a r dst cc : B} :
    Spec.refEncode a r dst (.respSetEid cc false 0#8) =
      .ok (frame a dst [0x00#8, 0x00#8, 0x01#8, cc, 0x00#8, r, 0x00#8]) :=
  refEncode_resp rfl rfl (by simp) (by simp)

theorem ref_getEid {a r dst cc : B} :
    Spec.refEncode a r dst (.respGetEid cc 0#8 0#8 false) =
      .ok (frame a dst [0x00#8, 0x00#8, 0x02#8, cc, r, 0x00#8, 0x00#8]) :=
  refEncode_resp rfl rfl (by simp) (by simp)

theorem ref_uuid {a r dst cc : B} {u : Bytes} (h : u.length ≤ 246) :
    Spec.refEncode a r dst (.respUuid cc u) = .ok (frame a dst (0x00#8 :: 0x00#8 :: 0x03#8 :: cc :: u)) :=
  refEncode_resp rfl rfl (by simp) h

theorem ref_version {a r dst cc : B} :
    Spec.refEncode a r dst (.respVersion cc) =
      .ok (frame a dst [0x00#8, 0x00#8, 0x04#8, cc, 0x01#8, 0xF1#8, 0xF3#8, 0xF1#8, 0x00#8]) :=
  refEncode_resp rfl rfl (by simp) (by simp)

theorem ref_msgTypes {a r dst cc : B} {ts : Bytes} (h : ts.length ≤ 30) :
    Spec.refEncode a r dst (.respMsgTypes cc ts) =
      .ok (frame a dst (0x00#8 :: 0x00#8 :: 0x05#8 :: cc :: BitVec.ofNat 8 ts.length :: ts)) :=
  refEncode_resp rfl (by simp [Spec.documentedInvalid]; omega) (by simp) (by simp; omega)

theorem ref_vendor {a r dst cc sel : B} {vid : Bytes} (h : vid.length ≤ 7) :
    Spec.refEncode a r dst (.respVendor cc sel vid) =
      .ok (frame a dst (0x00#8 :: 0x00#8 :: 0x06#8 :: cc :: sel :: vid)) :=
  refEncode_resp rfl rfl (by intro _ _ _ h'; cases h'; exact h) (by simp; omega)

end RefineEnc
end Mctp
