/-
C14 — vendor ID sets can be enumerated completely by following selectors.
-/
import Mctp.Lemmas.Process
namespace Mctp
namespace C14

/-- selector `i < n`: Success, next selector, and the i-th set in its own format — whatever the
scratch selector cell held before and whatever was queried before -/
theorem answer (c : Ctx) (p buf : Bytes) (v : VendorId) (i : Nat)
    (hc : Spec.configOk c = true) (hb : 64 ≤ buf.length)
    (ha : Spec.isAcceptedRequest p = true) (hcmd : Spec.cmdOf p = 0x06#8)
    (hi : (byteAt p 11).toNat = i) (hv : c.vendorIds[i]? = some v) :
    ∃ c' d n buf', process c p buf = (c', .ok (d, some n), buf') ∧
      n = 14 + (Spec.encodeSet v).length ∧
      Spec.sub buf' 9 (n - 1) =
        [0x00#8, 0x06#8, 0x00#8, Spec.nextSelector i c.vendorIds.length] ++ Spec.encodeSet v ∧
      c'.vendorIds = c.vendorIds ∧ Spec.configOk c' = true := by
  subst hi
  obtain ⟨harm, hl⟩ := Proc.arm_vendor (eid := byteAt p 12) hc hv
  obtain ⟨buf', hp, -, hs⟩ := Proc.process_answer (buf := buf) (n := 14 + (Spec.encodeSet v).length) ha hcmd
    harm (RefineEnc.ref_vendor hl) (by simp; omega) (by omega)
  -- `configOk` reads no selector cell, so `hc` proves it of the arm's context as it stands
  exact ⟨_, _, _, _, hp, rfl, hs, rfl, hc⟩

/-- the requester's walk: start at `i`, follow the returned selectors until 0xFF -/
def walk (vs : List VendorId) : Nat → Nat → List Bytes
  | 0, _ => []
  | fuel + 1, i =>
    match vs[i]? with
    | none => []
    | some v =>
      Spec.encodeSet v ::
        (if Spec.nextSelector i vs.length = 0xFF#8 then [] else walk vs fuel (Spec.nextSelector i vs.length).toNat)

theorem nextSelector_succ {i n : Nat} (h : i + 1 < n) (h255 : n ≤ 255) :
    Spec.nextSelector i n ≠ 0xFF#8 ∧ (Spec.nextSelector i n).toNat = i + 1 := by
  have htn : (BitVec.ofNat 8 (i + 1)).toNat = i + 1 := by
    simp only [BitVec.toNat_ofNat]; omega
  rw [Spec.nextSelector, if_neg (by omega)]
  refine ⟨fun h => ?_, htn⟩
  have := congrArg BitVec.toNat h
  rw [htn] at this; simp at this; omega

theorem walk_from (vs : List VendorId) (h255 : vs.length ≤ 255) :
    ∀ (fuel i : Nat), i < vs.length → vs.length - i ≤ fuel → walk vs fuel i = (vs.drop i).map Spec.encodeSet := by
  intro fuel
  induction fuel with
  | zero => intro i h1 h2; omega
  | succ fuel ih =>
    intro i h1 h2
    rw [walk, List.getElem?_eq_getElem h1, List.drop_eq_getElem_cons h1, List.map_cons]
    refine congrArg (Spec.encodeSet vs[i] :: ·) ?_
    by_cases hn : i + 1 = vs.length
    · rw [if_pos (show Spec.nextSelector i vs.length = 0xFF#8 from if_pos hn), List.drop_eq_nil_of_le (by omega)]; rfl
    · obtain ⟨hne, htn⟩ := nextSelector_succ (i := i) (by omega) h255
      rw [if_neg hne, htn]
      exact ih (i + 1) (by omega) (by omega)

/-- starting at selector 0 the walk sees every configured set exactly once, in order, and stops -/
theorem walk_complete (vs : List VendorId) (h1 : 1 ≤ vs.length) (h255 : vs.length ≤ 255) :
    walk vs 256 0 = vs.map Spec.encodeSet := by
  simpa using walk_from vs h255 256 0 (by omega) (by omega)

end C14
end Mctp
