/-
End-to-end sessions between two contexts of the model: a requester encodes a request with the
library's encoder, the responder processes it, the requester decodes the response. These compose the
transmit path, the receive path and the processor; they go beyond the listed properties and show the
three parts agree with each other on the library's own traffic.
-/
import Mctp.Lemmas.Roundtrip
import Mctp.Lemmas.Process
namespace Mctp
namespace Session
open Spec

/-- one exchange: the requester's call `e` writes the request `cmd`, `data`; the responder's arm for it
calls `e2`, whose reference packet carries `cc`, `rest`, has `m` bytes and fits the response buffer; the
response is addressed back to the requester, and the requester's decoder meets the frame of `cc`, `rest`.
`harm` holds for all `op`, `eid` the data does not fix, because past a short request's data the arm is
handed the PEC and what lies beyond (see `Proc.arm`). -/
theorem exchange {c1 c2 c2' : Ctx} {dst cmd cc : B} {e e2 : Enc} {data rest buf buf' rbuf : Bytes} {n m : Nat}
    (h : encode c1 dst e buf = .ok (buf', n))
    (hm : libMessage c1.respEid e = 0x00#8 :: 0x80#8 :: cmd :: data)
    (hf : lenFits (reqFixed cmd) data.length = true)
    (harm : ∀ op eid, (0 < data.length → op = byteAt data 0) → (1 < data.length → eid = byteAt data 1) →
      Proc.arm c2 cmd op eid = (c2', .inr e2))
    (href : refEncode c2'.address c2'.respEid c1.address e2 =
      .ok (frame c2'.address c1.address (0x00#8 :: 0x00#8 :: cmd :: cc :: rest)))
    (hlen : m = 13 + rest.length) (hfit : m ≤ rbuf.length) :
    ∃ rbuf', process c2 (buf'.take n) rbuf = (c2', .ok ((.control, 11, data.length), some m), rbuf') ∧
      decode (rbuf'.take m) = decode (frame c2'.address c1.address (0x00#8 :: 0x00#8 :: cmd :: cc :: rest)) ∧
      Spec.sub rbuf' 12 (m - 1) = rest ∧
      byteAt rbuf' 5 = c1.address ∧ byteAt rbuf' 6 = c2'.address ∧ byteAt rbuf' 0 = (c1.address &&& 0x7F#8) <<< 1 := by
  subst hlen
  rw [RefineEnc.encode_ok_take h, hm]
  generalize hp : frame c1.address dst (0x00#8 :: 0x80#8 :: cmd :: data) = p
  have ha : isAcceptedRequest p = true := by rw [← hp, isAcceptedRequest_frame, hf]
  obtain ⟨h10, h6, hl⟩ : cmdOf p = cmd ∧ byteAt p 6 = c1.address ∧ p.length - 12 = data.length := by
    rw [← hp, frame_length]
    exact ⟨rfl, rfl, by simp⟩
  have harm := harm (byteAt p 11) (byteAt p 12)
    (fun h => by rw [← hp]; exact byteAt_frame _ _ _ 3 (by simp only [List.length_cons]; omega))
    (fun h => by rw [← hp]; exact byteAt_frame _ _ _ 4 (by simp only [List.length_cons]; omega))
  rw [← h6] at href
  obtain ⟨rbuf', hpr, rfl, -⟩ := Proc.process_answer (buf := rbuf) ha h10 harm href rfl hfit
  rw [hl, h6] at hpr
  refine ⟨_, hpr, by rw [take_resp_frame],
    (show 13 + rest.length - 1 = 12 + rest.length by omega) ▸ sub_resp_frame _ _ _ _ _ _ 4, ?_, ?_, ?_⟩
  all_goals (rw [frame_cons]; rfl)

/-- Set Endpoint ID (Set / Force): the responder takes the EID, answers Success with it, the
response is addressed to the requester and decodes on the requester's side to the three data bytes -/
theorem set_eid (c1 c2 : Ctx) (dst op e : B) (buf buf' rbuf : Bytes) (n : Nat)
    (hop : op = 0x00#8 ∨ op = 0x01#8)
    (h : encode c1 dst (.reqSetEid op e) buf = .ok (buf', n)) (hb : 64 ≤ rbuf.length) :
    ∃ c2' d rbuf', process c2 (buf'.take n) rbuf = (c2', .ok (d, some 16), rbuf') ∧
      c2'.reqEid = e ∧ c2'.respEid = e ∧
      decode (rbuf'.take 16) = .ok (.control, 12, 3) ∧
      Spec.sub rbuf' 12 15 = [0x00#8, e, 0x00#8] ∧
      byteAt rbuf' 5 = c1.address ∧ byteAt rbuf' 6 = c2.address ∧
      byteAt rbuf' 0 = (c1.address &&& 0x7F#8) <<< 1 := by
  obtain ⟨rbuf', hp, hd, hs, h5, h6, h0⟩ := exchange (c2 := c2) (c2' := { c2 with respEid := e, reqEid := e })
    (data := [op, e]) (rbuf := rbuf) h rfl rfl
    (by intro op' e' h1 h2; rw [h1 (by simp), h2 (by simp)]; exact if_pos hop)
    RefineEnc.ref_setEid rfl (by simp; omega)
  exact ⟨_, _, _, hp, rfl, rfl, hd.trans (by rw [decode_frame_response]; rfl), hs, h5, h6, h0⟩

/-- Get MCTP Version Support for any query: 1.3.1, decodable by the requester -/
theorem version (c1 c2 : Ctx) (dst q : B) (buf buf' rbuf : Bytes) (n : Nat)
    (h : encode c1 dst (.reqVersion q) buf = .ok (buf', n)) (hb : 64 ≤ rbuf.length) :
    ∃ d rbuf', process c2 (buf'.take n) rbuf = (c2, .ok (d, some 18), rbuf') ∧
      decode (rbuf'.take 18) = .ok (.control, 12, 5) ∧
      Spec.sub rbuf' 12 17 = [0x01#8, 0xF1#8, 0xF3#8, 0xF1#8, 0x00#8] := by
  obtain ⟨rbuf', hp, hd, hs, -⟩ := exchange (c2 := c2) (c2' := c2) (data := [q]) (rbuf := rbuf)
    h rfl rfl (fun _ _ _ _ => rfl) RefineEnc.ref_version rfl (by simp; omega)
  exact ⟨_, _, hp, hd.trans (by rw [decode_frame_response]; rfl), hs⟩

/-- Get Endpoint UUID: the responder's UUID arrives at the requester byte for byte -/
theorem uuid (c1 c2 : Ctx) (dst : B) (buf buf' rbuf : Bytes) (n : Nat) (hu : c2.uuid.length = 16)
    (h : encode c1 dst .reqGetUuid buf = .ok (buf', n)) (hb : 64 ≤ rbuf.length) :
    ∃ d rbuf', process c2 (buf'.take n) rbuf = (c2, .ok (d, some 29), rbuf') ∧
      decode (rbuf'.take 29) = .ok (.control, 12, 16) ∧
      Spec.sub rbuf' 12 28 = c2.uuid := by
  obtain ⟨rbuf', hp, hd, hs, -⟩ := exchange (c2 := c2) (c2' := c2) (data := []) (rbuf := rbuf) (m := 29)
    h rfl rfl (fun _ _ _ _ => rfl) (RefineEnc.ref_uuid (by omega)) (by omega) (by omega)
  refine ⟨_, _, hp, ?_, hs⟩
  rw [hd, decode_frame_response, hu]; rfl

/-- Get Message Type Support: count and list arrive at the requester -/
theorem msg_types (c1 c2 : Ctx) (dst : B) (buf buf' rbuf : Bytes) (n : Nat) (ht : c2.msgTypes.length ≤ 30)
    (h : encode c1 dst .reqMsgTypes buf = .ok (buf', n)) (hb : 64 ≤ rbuf.length) :
    ∃ d rbuf', process c2 (buf'.take n) rbuf = (c2, .ok (d, some (14 + c2.msgTypes.length)), rbuf') ∧
      decode (rbuf'.take (14 + c2.msgTypes.length)) = .ok (.control, 12, 1 + c2.msgTypes.length) ∧
      Spec.sub rbuf' 12 (13 + c2.msgTypes.length) = BitVec.ofNat 8 c2.msgTypes.length :: c2.msgTypes := by
  obtain ⟨rbuf', hp, hd, hs, -⟩ := exchange (c2 := c2) (c2' := c2) (data := []) (rbuf := rbuf)
    (m := 14 + c2.msgTypes.length) h rfl rfl (fun _ _ _ _ => rfl)
    (RefineEnc.ref_msgTypes ht) (by simp; omega) (by omega)
  rw [show 14 + c2.msgTypes.length - 1 = 13 + c2.msgTypes.length by omega] at hs
  refine ⟨_, _, hp, ?_, hs⟩
  rw [hd, decode_frame_response]
  simp only [List.length_cons, Nat.add_comm c2.msgTypes.length 1]; rfl

/-- Get Vendor Defined Message Support with the library's own request encoder: selector i < n is
answered with the i-th set and the next selector, and the requester decodes it -/
theorem vendor (c1 c2 : Ctx) (dst sel : B) (v : VendorId) (buf buf' rbuf : Bytes) (n : Nat)
    (hc : Spec.configOk c2 = true) (hv : c2.vendorIds[sel.toNat]? = some v)
    (h : encode c1 dst (.reqVendor sel) buf = .ok (buf', n)) (hb : 64 ≤ rbuf.length) :
    ∃ c2' d rbuf' m, process c2 (buf'.take n) rbuf = (c2', .ok (d, some m), rbuf') ∧
      m = 14 + (Spec.encodeSet v).length ∧
      decode (rbuf'.take m) = .ok (.control, 12, 1 + (Spec.encodeSet v).length) ∧
      Spec.sub rbuf' 12 (m - 1) = Spec.nextSelector sel.toNat c2.vendorIds.length :: Spec.encodeSet v := by
  obtain ⟨-, hl⟩ := Proc.arm_vendor (eid := 0#8) hc hv
  obtain ⟨rbuf', hp, hd, hs, -⟩ := exchange (c2 := c2) (data := [sel]) (rbuf := rbuf)
    (m := 14 + (Spec.encodeSet v).length) h rfl rfl
    (fun op eid h1 _ => by rw [h1 (by simp)]; exact (Proc.arm_vendor hc hv).1)
    (RefineEnc.ref_vendor hl) (by simp; omega) (by omega)
  refine ⟨_, _, _, _, hp, rfl, ?_, hs⟩
  rw [hd, decode_frame_response]
  simp only [List.length_cons, Nat.add_comm (Spec.encodeSet v).length 1]; rfl

/-- finding D2 seen end to end: the requester cannot decode the responder's Get Endpoint ID answer -/
theorem get_eid_answer_rejected (c1 c2 : Ctx) (dst : B) (buf buf' rbuf : Bytes) (n : Nat)
    (h : encode c1 dst .reqGetEid buf = .ok (buf', n)) (hb : 64 ≤ rbuf.length) :
    ∃ d rbuf', process c2 (buf'.take n) rbuf = (c2, .ok (d, some 16), rbuf') ∧
      decode (rbuf'.take 16) = .err (.control, .ctl .len) := by
  obtain ⟨rbuf', hp, hd, -⟩ := exchange (c2 := c2) (c2' := c2) (data := []) (rbuf := rbuf)
    h rfl rfl (fun _ _ _ _ => rfl) RefineEnc.ref_getEid rfl (by simp; omega)
  exact ⟨_, _, hp, hd.trans (by rw [decode_frame_response]; rfl)⟩

end Session
end Mctp
