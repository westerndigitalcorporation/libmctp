/-
C07 — control response bodies follow the DSP0236 response layouts.
-/
import Mctp.Props.RefineEnc
namespace Mctp
namespace C07

/-- Rq/D/reserved/instance byte 0, command code, completion code -/
theorem header (c : Ctx) (dst : B) (e : Enc) (buf buf' fields : Bytes) (cmd cc : B) (n : Nat)
    (hf : Spec.respFields c.respEid e = some (cmd, cc, fields))
    (h : encode c dst e buf = .ok (buf', n)) :
    Spec.sub (buf'.take n) 9 12 = [0x00#8, cmd, cc] := by
  rw [RefineEnc.encode_ok_take h, RefineEnc.libMessage_resp hf]
  rfl

/-- (stronger, what the code does) the fields follow every completion code -/
theorem body_any_cc (c : Ctx) (dst : B) (e : Enc) (buf buf' fields : Bytes) (cmd cc : B) (n : Nat)
    (hf : Spec.respFields c.respEid e = some (cmd, cc, fields))
    (h : encode c dst e buf = .ok (buf', n)) :
    Spec.sub (buf'.take n) 12 (n - 1) = fields := by
  obtain ⟨rfl, -, -, -, -, ht⟩ := RefineEnc.encode_ok_frame h
  rw [ht, RefineEnc.libMessage_resp hf]
  exact sub_frame _ _ _ 4

/-- for Success the remaining bytes are exactly the command's response fields -/
theorem success_body (c : Ctx) (dst : B) (e : Enc) (buf buf' fields : Bytes) (cmd cc : B) (n : Nat)
    (hf : Spec.respFields c.respEid e = some (cmd, cc, fields)) (hcc : cc = 0x00#8)
    (h : encode c dst e buf = .ok (buf', n)) :
    Spec.sub (buf'.take n) 12 (n - 1) = fields :=
  have _ := hcc   -- not needed: `body_any_cc`
  body_any_cc c dst e buf buf' fields cmd cc n hf h

end C07
end Mctp
