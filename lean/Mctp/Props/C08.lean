/-
C08 — vendor-defined and SPDM messages are framed with the right vendor header.
-/
import Mctp.Props.RefineEnc
namespace Mctp
namespace C08

/-- type byte, vendor ID most-significant byte first, then the message verbatim; SPDM / secured:
type byte, optional header and body verbatim -/
theorem frame (c : Ctx) (dst : B) (e : Enc) (buf buf' fr : Bytes) (n : Nat)
    (hv : Spec.vendorFrame e = some fr)
    (h : encode c dst e buf = .ok (buf', n)) :
    Spec.message (buf'.take n) = fr := by
  rw [RefineEnc.encode_ok_take h, RefineEnc.libMessage_vendor hv]
  unfold Spec.message
  rw [frame_length]
  exact sub_frame _ _ fr 0

/-- any other vendor ID format is refused -/
theorem bad_format (c : Ctx) (dst : B) (v : VendorId) (msg buf : Bytes)
    (h0 : v.format ≠ 0#8) (h1 : v.format ≠ 1#8) :
    encode c dst (.vendorDefined v msg) buf = .err () :=
  C16.refuse_documented c dst _ buf (by simp [Spec.documentedInvalid, h0, h1])

end C08
end Mctp
