/-
Soundness of the executable judge for the transmit path and the round trip: judging the MODEL's own
encoder observation never yields `fail` (at worst `known:D5` / `known:D2` / `known:D3`).
Both theorems hold unconditionally for the judge as it stands.

History.  Against the first version of `Spec/Judge.lean` both statements were false; three clauses were stricter
than what is proved of the model, all on calls outside the documented argument shapes (`Spec.argsOk`) or outside
the Rust API's types, and the judge was corrected:
 1. "C06", `.ok` clause: `reqRouting es` with `es.length % 4 ≠ 0`, `es.length < 32` (the model sends whole entries
    only, the judge compared with all of `es`; verdict on the model was `fail:body`, e.g. `es = [0x01]`).
    Now: `if !argsOk e then .na`.
 2. "C04" and "C16" `.panic` clauses: `respVendor cc sel vid` with `vid.length ≥ 246` (the model panics for every
    `vid.length > 7` before any size check, the judge demanded a refusal because `messageLen > 250`; verdicts were
    `fail:oversize-not-refused` / `fail:oversize-panics`).  Now both clauses require `argsOk e`.
 3. round trip: a response call whose completion-code argument is a byte ≥ 6 (not a `CompletionCode`): the model's
    decoder panics (`unreachable!`, finding D10; verdict was `fail:error-response-not-reported`, e.g. `respVersion 6`).
    Now: `if 5 < cc.toNat then .na`.
-/
import Mctp.Props.C01
import Mctp.Props.C03
import Mctp.Props.C04
import Mctp.Props.C05
import Mctp.Props.C06
import Mctp.Props.C07
import Mctp.Props.C08
import Mctp.Props.C16
import Mctp.Lemmas.Verdict
import Mctp.Lemmas.JudgeSoundEnc
namespace Mctp
namespace JudgeSound
open Spec JSE

/- `isFailE`, `specOfE`: the names `enc_model` and `rt_model` are stated with; they are `isFail`, `specOf`. -/
def isFailE : Spec.Verdict → Bool
  | .fail _ => true
  | _ => false

def specOfE (c : Ctx) : Spec.SpecSt := ⟨c.address, c.msgTypes, c.vendorIds, (c.reqEid, c.respEid), c.uuid⟩

theorem isFailE_eq : isFailE = isFail := rfl

theorem specOfE_eq : specOfE = specOf := rfl

theorem enc_C03 (c : Ctx) (dst : B) (e : Enc) (buf : Bytes) :
    isFail (judgeEnc "C03" (specOf c) dst e buf (encode c dst e buf) buf) = false := by
  -- `simp only []` evaluates the match on the string literal: what is left is the "C03" clause
  unfold judgeEnc; simp only []
  cases h : encode c dst e buf with
  | ok r =>
    obtain ⟨h1, h2⟩ := C03.pec c dst e buf r.1 r.2 h
    exact isFail_chk (by rw [h1, h2]; rfl)
  | err u => rfl
  | panic p => rfl

theorem enc_C05 (c : Ctx) (dst : B) (e : Enc) (buf : Bytes) :
    isFail (judgeEnc "C05" (specOf c) dst e buf (encode c dst e buf) buf) = false := by
  unfold judgeEnc; simp only []
  cases h : encode c dst e buf with
  | ok r => exact isFail_chk (C05.transport c dst e buf r.1 r.2 h)
  | err u => rfl
  | panic p => rfl

theorem enc_C04 (c : Ctx) (dst : B) (e : Enc) (buf : Bytes) :
    isFail (judgeEnc "C04" (specOf c) dst e buf (encode c dst e buf) buf) = false := by
  unfold judgeEnc; simp only []
  rw [show (specOf c).eids.2 = c.respEid from rfl]
  cases h : encode c dst e buf with
  | ok r =>
    obtain ⟨b, n⟩ := r
    obtain ⟨rfl, -, h250, -, rfl, -⟩ := RefineEnc.encode_ok_frame h
    refine isFail_chk ?_
    rw [show (specOf c).addr = c.address from rfl, C04.frame c dst e buf _ _ h, Bool.true_and,
      decide_eq_true (by omega), Bool.true_and, decide_eq_true_eq, List.length_append, frame_length]
    omega
  | err u =>
    cases messageLen c.respEid e with
    | none => rfl
    | some m => exact isFail_ite rfl rfl
  | panic p =>
    cases hm : messageLen c.respEid e with
    | none => rfl
    | some m =>
      cases ha : argsOk e
      · exact isFail_if_neg (by rw [Bool.and_false]; exact Bool.false_ne_true) rfl
      · have := (encode_panic_inv h).2 ha m hm
        exact isFail_if_neg (by rw [Bool.and_true, decide_eq_true_eq]; omega) rfl

/-- the refusal clause of "C06" / "C07": a call in the documented shapes whose message is short is not refused -/
theorem refused_clause {c : Ctx} {dst : B} {e : Enc} {buf : Bytes} {u : Unit} {m : Nat} {w : String}
    (h : encode c dst e buf = .err u) (hm : messageLen c.respEid e = some m)
    (hs : documentedInvalid e = false → argsOk e = true → m ≤ 250) :
    isFail (if (documentedInvalid e || !argsOk e) = true then .na else .fail w) = false := by
  cases hd : documentedInvalid e <;> cases ha : argsOk e <;> try rfl
  have := encode_err_len h hd ha hm
  have := hs hd ha
  omega

/-- the panic clause of "C06" / "C07": a panic means the buffer does not hold the packet (`k = m + 9` bytes) -/
theorem panic_clause {c : Ctx} {dst : B} {e : Enc} {buf : Bytes} {p : Panic} {m k : Nat} {w : String}
    (h : encode c dst e buf = .panic p) (hm : messageLen c.respEid e = some m) (hk : k = m + 9) :
    isFail (if (documentedInvalid e || !argsOk e || decide (buf.length < k)) = true then .na else .fail w) = false := by
  cases hd : documentedInvalid e <;> cases ha : argsOk e <;> try rfl
  have := (encode_panic_inv h).2 ha _ hm
  exact isFail_if_pos (decide_eq_true (by omega)) rfl

theorem enc_C06 (c : Ctx) (dst : B) (e : Enc) (buf : Bytes) :
    isFail (judgeEnc "C06" (specOf c) dst e buf (encode c dst e buf) buf) = false := by
  unfold judgeEnc; simp only []
  cases hr : reqBody e with
  | none => cases encode c dst e buf <;> rfl
  | some body =>
    cases h : encode c dst e buf with
    | ok r =>
      obtain ⟨b, n⟩ := r
      simp only []
      cases ha : argsOk e with
      | false => rfl
      | true =>
        rw [Bool.not_true, if_neg Bool.false_ne_true]
        by_cases hq : ∃ a t, e = .reqQueryHop a t
        · obtain ⟨a, t, rfl⟩ := hq
          rw [C06.query_hop_code c dst a t buf b n h]
          exact isFail_ite rfl (by simp only [beq_self_eq_true, ↓reduceIte]; rfl)
        · rw [C06.body_partial c dst e buf b body n (fun a t he => hq ⟨a, t, he⟩) ha hr h, if_pos (beq_self_eq_true body)]
          rfl
    | err u => exact refused_clause h (messageLen_req hr) fun hd ha => by have := reqBody_small hd ha hr; omega
    | panic p => exact panic_clause h (messageLen_req hr) (by omega)

theorem enc_C07 (c : Ctx) (dst : B) (e : Enc) (buf : Bytes) :
    isFail (judgeEnc "C07" (specOf c) dst e buf (encode c dst e buf) buf) = false := by
  unfold judgeEnc; simp only []
  rw [show (specOf c).eids.2 = c.respEid from rfl]
  cases hf : respFields c.respEid e with
  | none => cases encode c dst e buf <;> rfl
  | some x =>
    obtain ⟨cmd, cc, fields⟩ := x
    cases h : encode c dst e buf with
    | ok r =>
      obtain ⟨b, n⟩ := r
      exact isFail_and (isFail_chk_beq (C07.header c dst e buf b fields cmd cc n hf h))
        (isFail_ite (isFail_chk_beq (C07.body_any_cc c dst e buf b fields cmd cc n hf h)) rfl)
    | err u => exact refused_clause h (messageLen_resp hf) fun hd ha => by have := respFields_small hd ha hf; omega
    | panic p => exact panic_clause h (messageLen_resp hf) (by omega)

/-- the clause shared by both arms of "C08" -/
theorem vendor_clause (c : Ctx) (dst : B) (e : Enc) (buf : Bytes) :
    isFail (match encode c dst e buf, vendorFrame e with
      | .ok (b, n), some fr => chk (message (b.take n) == fr) "frame"
      | .err _, some fr => if decide (fr.length ≤ 250) then .fail "valid-message-refused" else .na
      | .panic _, some fr =>
        if decide (fr.length ≤ 250) && decide (9 + fr.length < buf.length) then .fail "valid-message-panics" else .na
      | _, _ => .na) = false := by
  cases hv : vendorFrame e with
  | none => cases encode c dst e buf <;> rfl
  | some fr =>
    obtain ⟨hm, hd, ha⟩ := messageLen_vendor (r := c.respEid) hv
    cases h : encode c dst e buf with
    | ok r => exact isFail_chk_beq (C08.frame c dst e buf r.1 fr r.2 hv h)
    | err u =>
      have := encode_err_len h hd ha hm
      exact isFail_if_neg (by rw [decide_eq_true_eq]; omega) rfl
    | panic p =>
      have := (encode_panic_inv h).2 ha _ hm
      exact isFail_if_neg (by rw [Bool.and_eq_true, decide_eq_true_eq, decide_eq_true_eq]; omega) rfl

theorem enc_C08 (c : Ctx) (dst : B) (e : Enc) (buf : Bytes) :
    isFail (judgeEnc "C08" (specOf c) dst e buf (encode c dst e buf) buf) = false := by
  unfold judgeEnc; simp only []
  split
  · rename_i v msg
    by_cases hfm : v.format = 0#8 ∨ v.format = 1#8
    · rw [if_pos hfm]; exact vendor_clause c dst _ buf
    · rw [if_neg hfm, C08.bad_format c dst v msg buf (fun h => hfm (.inl h)) (fun h => hfm (.inr h))]
      exact isFail_chk_beq rfl
  · exact vendor_clause c dst e buf

theorem enc_C16 (c : Ctx) (dst : B) (e : Enc) (buf : Bytes) :
    isFail (judgeEnc "C16" (specOf c) dst e buf (encode c dst e buf) buf) = false := by
  unfold judgeEnc; simp only []
  rw [show (specOf c).eids.2 = c.respEid from rfl]
  cases h : encode c dst e buf with
  | ok r =>
    obtain ⟨b, n⟩ := r
    obtain ⟨h1, h2⟩ := C16.written_exactly c dst e buf b n h
    obtain ⟨-, -, -, h3, -⟩ := RefineEnc.encode_ok_frame h
    have h4 : documentedInvalid e = false := by
      cases hdi : documentedInvalid e
      · rfl
      · rw [C16.refuse_documented c dst e buf hdi] at h; cases h
    refine isFail_and (isFail_chk ?_) (isFail_chk (by rw [h4]; rfl))
    rw [h1, h2, beq_self_eq_true, beq_self_eq_true, decide_eq_true h3]
    rfl
  | err u =>
    refine isFail_and (isFail_chk_beq rfl) ?_
    cases hd : documentedInvalid e with
    | true => rfl
    | false =>
      cases hm : messageLen c.respEid e with
      | none => rfl
      | some m =>
        by_cases hle : m ≤ 250
        · -- within the frame: refused only for arguments outside the documented shapes
          cases ha : argsOk e
          · rw [Option.map_some, decide_eq_true hle]; rfl
          · have := encode_err_len h hd ha hm
            omega
        · rw [Option.map_some, decide_eq_false hle]; rfl
  | panic p =>
    obtain ⟨hd, hlen⟩ := encode_panic_inv h
    refine isFail_ite rfl ?_
    rw [hd, if_neg Bool.false_ne_true]
    cases hm : messageLen c.respEid e with
    | none => rfl
    | some m =>
      cases ha : argsOk e
      · rw [Option.map_some]; cases decide (m ≤ 250) <;> rfl
      · obtain ⟨hle, hbuf⟩ := hlen ha m hm
        rw [Option.map_some, decide_eq_true hle]
        exact isFail_if_neg (by rw [Bool.true_and, decide_eq_true_eq]; omega) rfl

/-- encoder calls: every property, context, destination, call and buffer; on an error the model
reports the caller's buffer unchanged -/
theorem enc_model (prop : String) (c : Ctx) (dst : B) (e : Enc) (buf : Bytes) :
    isFailE (Spec.judgeEnc prop (specOfE c) dst e buf (encode c dst e buf) buf) = false := by
  rw [isFailE_eq, specOfE_eq]
  -- (`unfold judgeEnc; split` as in `proc_model` also works, at four times the cost: each branch is then
  -- compared with its clause lemma up to unfolding)
  by_cases h3 : prop = "C03"
  · subst h3; exact enc_C03 c dst e buf
  by_cases h4 : prop = "C04"
  · subst h4; exact enc_C04 c dst e buf
  by_cases h5 : prop = "C05"
  · subst h5; exact enc_C05 c dst e buf
  by_cases h6 : prop = "C06"
  · subst h6; exact enc_C06 c dst e buf
  by_cases h7 : prop = "C07"
  · subst h7; exact enc_C07 c dst e buf
  by_cases h8 : prop = "C08"
  · subst h8; exact enc_C08 c dst e buf
  by_cases h16 : prop = "C16"
  · subst h16; exact enc_C16 c dst e buf
  -- the matcher's equation for the default arm, its side conditions discharged from `h3` … `h16`
  unfold judgeEnc; simp only []
  rfl

/-- the round-trip classes by call: D2 is the Get Endpoint ID response, D3 calls are requests -/
theorem rtClass_cases (e : Enc) :
    rtClass e = .holds ∨ (∃ cc et it fair, e = .respGetEid cc et it fair) ∨ (rtClass e = .d3 ∧ respCc e = none) := by
  cases e <;> first | exact .inl rfl | exact .inr (.inr ⟨rfl, rfl⟩) | exact .inr (.inl ⟨_, _, _, _, rfl⟩)

/-- what the model's decoder makes of a packet the model's encoder produced, by round-trip class: the
payload, or findings D2 and D3.  The Boolean of the first case is literally the argument of the judge's
`chk` (its `outside` flag `false`, the expected type `t`), so that `isFail_chk` applies to it as it is. -/
theorem rt_decode (c : Ctx) (dst : B) (e : Enc) (buf buf' : Bytes) (n : Nat) (ha : argsOk e = true)
    (h : encode c dst e buf = .ok (buf', n)) (t : MsgType) (pl : Bytes) (hp : rtPayload c.respEid e = some (t, pl)) :
    (∃ off len, decode (buf'.take n) = .ok (t, off, len) ∧
      (!false && t == t && off == n - 1 - pl.length && len == pl.length &&
        sub (buf'.take n) off (off + len) == pl) = true) ∨
    (rtClass e = .d2 ∧ respCc e = some 0x00#8 ∧ decode (buf'.take n) = .err (.control, .ctl .len)) ∨
    (rtClass e = .d3 ∧ respCc e = none ∧ decode (buf'.take n) = .panic ⟨.unimplemented, .traits⟩) := by
  rcases rtClass_cases e with hcls | ⟨cc, et, it, fair, rfl⟩ | ⟨hcls, hcc⟩
  · obtain ⟨h1, h2, h3⟩ := C01.roundtrip_partial c dst e buf buf' pl n t ha hcls hp h
    refine .inl ⟨_, _, h1, ?_⟩
    rw [show n - 1 - pl.length + pl.length = n - 1 by omega, h2]
    simp only [beq_self_eq_true, Bool.not_false, Bool.and_self]
  · -- a payload is expected of a Success response only
    rw [C01.rtPayload_resp rfl] at hp
    split at hp
    · subst cc
      exact .inr (.inl ⟨rfl, rfl, C01.geteid_response_rejected c dst et it fair buf buf' n h⟩)
    · cases hp
  · exact .inr (.inr ⟨hcls, hcc, C01.request_unimpl c dst e buf buf' n hcls ha h⟩)

/-- round trip: the model's encoder output handed to the model's decoder -/
theorem rt_model (c : Ctx) (dst : B) (e : Enc) (buf buf' : Bytes) (n : Nat)
    (ha : Spec.argsOk e = true) (h : encode c dst e buf = .ok (buf', n)) :
    isFailE (Spec.judgeRt (specOfE c) e (buf'.take n) (decode (buf'.take n)) false) = false := by
  have hlen : (buf'.take n).length = n := by
    obtain ⟨rfl, -, -, -, -, ht⟩ := RefineEnc.encode_ok_frame h
    rw [ht, frame_length]
  have hdec := rt_decode c dst e buf buf' n ha h
  rw [isFailE_eq, specOfE_eq]
  unfold judgeRt; simp only []
  rw [show (specOf c).eids.2 = c.respEid from rfl, hlen]
  cases hr : respCc e with
  | some cc =>
    simp only []
    by_cases h5 : 5 < cc.toNat
    · rw [if_pos h5]; rfl
    rw [if_neg h5]
    by_cases hz : cc = 0x00#8
    · subst hz
      rw [if_neg (fun hne => hne rfl)]
      cases hp : rtPayload c.respEid e with
      | none => rfl
      | some x =>
        rcases hdec x.1 x.2 hp with ⟨off, len, hd, hchk⟩ | ⟨hcls, -, hd⟩ | ⟨-, hcc, -⟩
        · rw [hd]; exact isFail_chk hchk
        · rw [hd, hcls]; rfl
        · rw [hcc] at hr; cases hr
    · rw [if_pos hz]
      obtain ⟨hb, hne⟩ := ccOfByte_toByte cc hz (by omega)
      rw [C01.response_error c dst e buf buf' n (Spec.ccOfByte cc) (by rw [hb]; exact hr) hne h]
      exact isFail_chk_beq hb
  | none =>
    simp only []
    cases hp : rtPayload c.respEid e with
    | none => rfl
    | some x =>
      rcases hdec x.1 x.2 hp with ⟨off, len, hd, hchk⟩ | ⟨-, hcc, -⟩ | ⟨hcls, -, hd⟩
      · rw [hd]; exact isFail_chk hchk
      · rw [hcc] at hr; cases hr
      · rw [hd, hcls]; rfl

end JudgeSound
end Mctp
