/-
C11 — request processing agrees with decoding and only writes a response for requests.
-/
import Mctp.Props.Refine
namespace Mctp
namespace C11

/-- same type and payload, or same error, as decoding alone (whenever it returns at all) -/
theorem agrees (c : Ctx) (p buf : Bytes) (h : (process c p buf).2.1.isPanic = false) :
    (process c p buf).2.1.map (·.1) = decode p := by
  rcases Proc.process_cases c p buf with ⟨-, hp⟩ | ⟨-, -, hd, ⟨k, hp⟩ | ⟨cc, f, -, -, -, hp⟩⟩
  · rw [hp]
    cases decode p <;> rfl
  · rw [hp] at h; cases h
  · rw [hp, hd]; rfl

/-- no response reported ⇒ every byte of the response buffer is unchanged -/
theorem no_response_frame (c : Ctx) (p buf : Bytes)
    (h : ∀ d n, (process c p buf).2.1 ≠ .ok (d, some n)) :
    (process c p buf).2.2 = buf := by
  rcases Proc.process_cases c p buf with ⟨-, hp⟩ | ⟨-, -, -, ⟨k, hp⟩ | ⟨cc, f, -, -, -, hp⟩⟩
  · rw [hp]
  · rw [hp]
  · exact absurd (by rw [hp]) (h _ _)

/-- a response is reported only for accepted control requests; bytes beyond it are unchanged -/
theorem response_frame (c : Ctx) (p buf : Bytes) (d : Dec) (n : Nat)
    (h : (process c p buf).2.1 = .ok (d, some n)) :
    Spec.isAcceptedRequest p = true ∧ (process c p buf).2.2.length = buf.length ∧
    (process c p buf).2.2.drop n = buf.drop n ∧ n ≤ buf.length := by
  obtain ⟨ha, hle, cc, f, -, -, rfl, hp⟩ := Proc.process_ok_some h
  rw [hp]
  refine ⟨ha, ?_, drop_resp_frame .., hle⟩
  rw [List.length_append, resp_frame_length, List.length_drop]
  omega

/-- everything that is not a control request gets no response -/
theorem non_request_none (c : Ctx) (p buf : Bytes) (r : Dec × Option Nat)
    (h : (process c p buf).2.1 = .ok r) (hn : (Spec.isControl p && Spec.isRequest p) = false) :
    r.2 = none := by
  obtain ⟨d, _ | n⟩ := r
  · rfl
  · exact absurd (hn.symm.trans (Proc.accepted_ctrl_req (Proc.process_ok_some h).1)) Bool.false_ne_true

/-- conversely, accepted control requests outside the D11 classes are answered -/
theorem requests_answered (c : Ctx) (p buf : Bytes)
    (hc : Spec.configOk c = true) (hb : 64 ≤ buf.length)
    (ha : Spec.answerable c.vendorIds.length p = true) :
    ∃ d n, (process c p buf).2.1 = .ok (d, some n) := by
  obtain ⟨d, body, -, h, -⟩ := Refine.answerable_answered c p buf hc (Refine.respFits_of_64 c p buf hc hb) ha
  exact ⟨_, _, h⟩

end C11
end Mctp
