/-
The accessors on backing buffers of any length (what the generated Rust code does): they return
exactly what the total accessors of C18 return when the field's highest byte exists, and panic
(index out of bounds, nothing written) otherwise.  This bounds the transfer of the C18 theorems to the
code: they speak about the code for buffers at least as long as the field reaches.
-/
import Mctp.Props.C18
namespace Mctp
namespace ViewsChecked

theorem getC_ok_iff (f : Field) (file : SrcFile) (buf : Bytes) :
    (∃ v, f.getC file buf = .ok v) ↔ f.msb / 8 < buf.length := by
  unfold Field.getC
  by_cases h : f.msb / 8 < buf.length <;> simp [h]

theorem getC_eq (f : Field) (file : SrcFile) (buf : Bytes) (h : f.msb / 8 < buf.length) :
    f.getC file buf = .ok (f.get buf) :=
  if_pos h

theorem getC_panic (f : Field) (file : SrcFile) (buf : Bytes) (h : buf.length ≤ f.msb / 8) :
    f.getC file buf = .panic ⟨.indexOOB, file⟩ :=
  if_neg (Nat.not_lt.mpr h)

theorem setC_eq (f : Field) (file : SrcFile) (buf : Bytes) (v : Nat) (h : f.msb / 8 < buf.length) :
    f.setC file buf v = .ok (f.set buf v) :=
  if_pos h

theorem setC_panic (f : Field) (file : SrcFile) (buf : Bytes) (v : Nat) (h : buf.length ≤ f.msb / 8) :
    f.setC file buf v = .panic ⟨.indexOOB, file⟩ :=
  if_neg (Nat.not_lt.mpr h)

/-- with the layout table: on a long-enough buffer the checked getter reads the documented bits -/
theorem getC_layout (f : Field) (l : C18.Layout) (h : (f, l) ∈ C18.table) (file : SrcFile) (buf : Bytes)
    (hk : f.msb / 8 < buf.length) :
    f.getC file buf = .ok (((byteAt buf l.byte).toNat / 2 ^ l.lo) % 2 ^ l.width) := by
  rw [getC_eq f file buf hk, C18.get_layout f l h buf]

end ViewsChecked
end Mctp
