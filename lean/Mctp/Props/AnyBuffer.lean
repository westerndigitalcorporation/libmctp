/-
C13 without the 64-byte precondition on response buffers: the EID bookkeeping of the model follows
the abstract specification for EVERY operation, whatever the size of the response buffer (an accepted
Set/Force request assigns both halves even when the answer does not fit and the call panics; nothing
else ever writes them).
-/
import Mctp.Lemmas.Ops
namespace Mctp
namespace AnyBuffer

theorem step (c : Ctx) (op : Op) :
    ((stepOp c op).1.reqEid, (stepOp c op).1.respEid) = Spec.eidsStep (c.reqEid, c.respEid) op := by
  cases op with
  | process p buf =>
    rw [Proc.stepOp_process, Proc.process_eids]
    rfl
  | setUuid u =>
    simp only [stepOp]
    split <;> rfl
  | _ => rfl

theorem refine (a : B) (ts : Bytes) (vs : List VendorId) (ops : List Op) :
    let c := (runOps (Ctx.new a ts vs) ops).1
    (c.reqEid, c.respEid) = Spec.eids ops :=
  Proc.runOps_fold (fun c => (c.reqEid, c.respEid)) Spec.eidsStep step ops _

/-- in particular the two halves can only be driven apart by the accessors, never by traffic -/
theorem halves_agree_after_traffic (c : Ctx) (p buf : Bytes) (h : c.reqEid = c.respEid) :
    (process c p buf).1.reqEid = (process c p buf).1.respEid := by
  obtain ⟨s, hs⟩ := Proc.process_fst c p buf
  rw [hs]
  cases Spec.assigns p with
  | some e => rfl
  | none => exact h

end AnyBuffer
end Mctp
