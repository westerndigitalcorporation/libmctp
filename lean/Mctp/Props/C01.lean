/-
C01 — encode then decode is the identity on message type and payload
(partial: findings D2 and D3 — proved to be exactly where it fails).
Every encoded packet is `frame addr dst (Spec.libMessage ..)` (`RefineEnc.encode_ok_frame`) and the decoder
on a frame is a function of the message (`Lemmas/Roundtrip`), so each statement is a fact about the
literal message tables.
-/
import Mctp.Lemmas.Roundtrip
import Mctp.Props.RefineEnc
namespace Mctp
namespace C01
open Spec

theorem rtPayload_resp {r : B} {e : Enc} {cmd cc : B} {f : Bytes} (h : respFields r e = some (cmd, cc, f)) :
    rtPayload r e = if cc = 0x00#8 then some (.control, f) else none := by
  unfold rtPayload; rw [RefineEnc.reqBody_of_respFields h, h]

theorem rt_message {r : B} {e : Enc} {t : MsgType} {pl : Bytes} (ha : argsOk e = true) (hcls : rtClass e = .holds)
    (hx : rtPayload r e = some (t, pl)) :
    (∃ cmd, t = .control ∧ libMessage r e = 0x00#8 :: 0x80#8 :: cmd :: pl ∧ reqUnimpl cmd = false ∧
      lenFits (reqFixed cmd) pl.length = true) ∨
    (∃ cmd, t = .control ∧ libMessage r e = 0x00#8 :: 0x00#8 :: cmd :: 0x00#8 :: pl ∧ respUnimpl cmd = false ∧
      lenFits (respFixedLib cmd) pl.length = true) ∨
    ((t = .pci ∨ t = .iana ∨ t = .spdm ∨ t = .secured) ∧ libMessage r e = (t.toByte &&& 0x7F#8) :: pl) := by
  cases e
  -- requests whose command has a length-table entry
  case reqSetEid | reqGetEid | reqGetUuid | reqVersion | reqMsgTypes | reqVendor | reqResolveEid | reqAllocate =>
    cases hx
    exact .inl ⟨_, rfl, rfl, by decide, rfl⟩
  -- Success responses; only the UUID's length is not fixed by the constructor
  case respUuid cc u =>
    rw [rtPayload_resp rfl] at hx
    split at hx <;> cases hx
    subst_vars
    have hu : pl.length = 16 := by simpa [argsOk] using ha
    exact .inr (.inl ⟨_, rfl, rfl, by decide, by rw [hu]; rfl⟩)
  case respSetEid | respVersion | respMsgTypes | respVendor =>
    rw [rtPayload_resp rfl] at hx
    split at hx <;> cases hx
    subst_vars
    exact .inr (.inl ⟨_, rfl, rfl, by decide, rfl⟩)
  -- vendor-defined and SPDM messages
  case genPci h d => cases hx; exact .inr (.inr ⟨.inl rfl, rfl⟩)
  case genIana h d => cases hx; exact .inr (.inr ⟨.inr (.inl rfl), rfl⟩)
  case genSpdm t' h d =>
    cases t' <;> cases hx
    · exact .inr (.inr ⟨.inr (.inr (.inl rfl)), rfl⟩)
    · exact .inr (.inr ⟨.inr (.inr (.inr rfl)), rfl⟩)
  case vendorDefined v msg =>
    have hl : libMessage r (.vendorDefined v msg) = (vendorFrame (.vendorDefined v msg)).getD [] := rfl
    have hp : rtPayload r (.vendorDefined v msg) =
        (vendorFrame (.vendorDefined v msg)).map fun fr => (if v.format = 0#8 then MsgType.pci else .iana, fr.drop 1) := by
      unfold rtPayload
      cases vendorFrame (.vendorDefined v msg) <;> rfl
    rw [hp] at hx; rw [hl]
    unfold vendorFrame at hx ⊢
    by_cases h0 : v.format = 0#8
    · simp only [if_pos h0] at hx ⊢
      cases hx; exact .inr (.inr ⟨.inl rfl, rfl⟩)
    · by_cases h1 : v.format = 1#8
      · simp only [if_neg h0, if_pos h1] at hx ⊢
        cases hx; exact .inr (.inr ⟨.inr (.inl rfl), rfl⟩)
      · simp only [if_neg h0, if_neg h1] at hx; cases hx
  -- the other classes, and the calls with no payload to compare
  all_goals first | (cases hcls; done) | cases hx

/-- for every encoder call outside the D2/D3 classes: the encoded bytes decode to the message
type they were encoded with and to a payload that is byte for byte what was encoded, a
sub-slice of the input ending immediately before the PEC -/
theorem roundtrip_partial (c : Ctx) (dst : B) (e : Enc) (buf buf' pl : Bytes) (n : Nat) (t : MsgType)
    (ha : Spec.argsOk e = true) (hcls : Spec.rtClass e = .holds)
    (hx : Spec.rtPayload c.respEid e = some (t, pl))
    (h : encode c dst e buf = .ok (buf', n)) :
    decode (buf'.take n) = .ok (t, n - 1 - pl.length, pl.length) ∧
    Spec.sub (buf'.take n) (n - 1 - pl.length) (n - 1) = pl ∧ pl.length + 1 ≤ n := by
  obtain ⟨rfl, -, -, -, -, ht⟩ := RefineEnc.encode_ok_frame h
  rw [ht]
  rcases rt_message ha hcls hx with ⟨cmd, rfl, hm, hu, hf⟩ | ⟨cmd, rfl, hm, hu, hf⟩ | ⟨htt, hm⟩ <;> rw [hm]
  · exact roundtrip_frame _ _ [0x00#8, 0x80#8, cmd] pl _
      ((decode_frame_request _ _ cmd pl).trans (by rw [hu, hf]; rfl))
  · exact roundtrip_frame _ _ [0x00#8, 0x00#8, cmd, 0x00#8] pl _
      ((decode_frame_response _ _ cmd _ pl).trans (by rw [hu, hf]; rfl))
  · exact roundtrip_frame _ _ [t.toByte &&& 0x7F#8] pl _ (decode_frame_vendor _ _ _ _ htt)

/-- a response encoded with a non-Success completion code decodes to the
unsuccessful-completion error carrying exactly that code -/
theorem response_error (c : Ctx) (dst : B) (e : Enc) (buf buf' : Bytes) (n : Nat) (cc : CC)
    (hcc : Spec.respCc e = some cc.toByte) (hne : cc ≠ .success)
    (h : encode c dst e buf = .ok (buf', n)) :
    decode (buf'.take n) = .err (.control, .ctl (.cc cc)) := by
  rw [RefineEnc.encode_ok_take h]
  obtain ⟨cmd, f, hm⟩ : ∃ cmd f, Spec.libMessage c.respEid e = 0x00#8 :: 0x00#8 :: cmd :: cc.toByte :: f := by
    cases e <;> cases hcc <;> exact ⟨_, _, rfl⟩
  rw [hm, decode_frame_response]
  cases cc <;> first | exact absurd rfl hne | rfl

/-- finding D3: the nine request kinds whose command has no length-table entry make the
decoder panic on the library's own output -/
theorem request_unimpl (c : Ctx) (dst : B) (e : Enc) (buf buf' : Bytes) (n : Nat)
    (hcls : Spec.rtClass e = .d3) (ha : Spec.argsOk e = true)
    (h : encode c dst e buf = .ok (buf', n)) :
    decode (buf'.take n) = .panic ⟨.unimplemented, .traits⟩ := by
  have _ := ha   -- not needed: the class `d3` already fixes the call
  rw [RefineEnc.encode_ok_take h]
  obtain ⟨cmd, data, hm, hu⟩ : ∃ cmd data, Spec.libMessage c.respEid e = 0x00#8 :: 0x80#8 :: cmd :: data ∧ Spec.reqUnimpl cmd = true := by
    cases e <;> first | (cases hcls; done) | exact ⟨_, _, rfl, by decide⟩
  rw [hm, decode_frame_request, hu]; rfl

/-- finding D2: the library's own Success Get Endpoint ID response is rejected -/
theorem geteid_response_rejected (c : Ctx) (dst et it : B) (fair : Bool) (buf buf' : Bytes) (n : Nat)
    (h : encode c dst (.respGetEid 0x00#8 et it fair) buf = .ok (buf', n)) :
    decode (buf'.take n) = .err (.control, .ctl .len) := by
  rw [RefineEnc.encode_ok_take h]
  exact decode_frame_response ..

end C01
end Mctp
