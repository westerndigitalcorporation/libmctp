/-
Refinement of the request processor to reference functions on the bytes: reference decoding
(`Spec.refDecode`; the decoder half, `Refine.decode_eq_ref`, is in `Lemmas/Decode.lean`), then — for an
answerable request — the specification's response framed back to the requester, for every response buffer
that holds that response.  `Spec.expectedResponse`, `Spec.SpecSt`, `Spec.respBody` are in Spec/Judge.lean.
-/
import Mctp.Lemmas.Process
import Mctp.Lemmas.Response
namespace Mctp
namespace Refine

/-- an accepted request whose `dispatch` writes the control response `data` for the request's command:
the response clauses of `process_eq_ref` from a `dispatch` equation.  Nothing uses it: `process_eq_ref_fit` goes
through `Proc.process_answer`. -/
theorem answered (c : Ctx) (p buf : Bytes) (s : Spec.SpecSt) (d : Dec) (c' : Ctx) (n : Nat) (cmdb : B) (data : Bytes)
    (ha : Spec.isAcceptedRequest p = true) (hu : Spec.reqUnimpl (byteAt p 10) = false)
    (hdd : d = (.control, 11, p.length - 12))
    (hd : dispatch c (byteAt p 10) (byteAt p 6) (fun i => byteAt p (11 + i)) buf =
      (c', .ok n, Proc.respPkt c.address (byteAt p 6) cmdb data ++ buf.drop n))
    (hn : n = 12 + data.length) (hcmd : cmdb = byteAt p 10) (h1 : 1 ≤ data.length) (h247 : data.length ≤ 247)
    (hbody : Spec.expectedResponse s p = some (0x00#8 :: cmdb :: data)) :
    ∃ body, Spec.expectedResponse s p = some body ∧
      (process c p buf).2.1 = .ok (d, some (10 + body.length)) ∧
      Spec.respBody (process c p buf).2.2 (10 + body.length) = body ∧
      Spec.respondsTo c.address p ((process c p buf).2.2.take (10 + body.length)) (10 + body.length) = true ∧
      (process c p buf).2.2.drop (10 + body.length) = buf.drop (10 + body.length) := by
  subst hn hcmd hdd
  match data, h1 with
  | cc :: rest, _ =>
    have e : 10 + (0x00#8 :: byteAt p 10 :: cc :: rest).length = 13 + rest.length := by
      simp only [List.length_cons]; omega
    have e' : 12 + (cc :: rest).length = 13 + rest.length := by simp only [List.length_cons]; omega
    rw [Proc.process_accepted c p buf ha hu, hd, Proc.respPkt_eq_frame]
    refine ⟨_, hbody, ?_⟩
    rw [e, e']
    exact ⟨rfl, Proc.response_clauses c.address p cc rest _ (by omega)⟩

/-- the buffer is long enough for the response the specification prescribes for `p` (if any) -/
def respFits (s : Spec.SpecSt) (p buf : Bytes) : Bool :=
  match Spec.expectedResponse s p with
  | some body => decide (10 + body.length ≤ buf.length)
  | none => true

/-- total characterisation of the request processor under a valid configuration and a response buffer
that holds the prescribed response: reference decoding, then — for an accepted request — the D11 panic
class or the specification's response (`Spec.expectedResponse`) framed back to the requester -/
theorem process_eq_ref_fit (c : Ctx) (p buf : Bytes) (hc : Spec.configOk c = true)
    (hb : respFits ⟨c.address, c.msgTypes, c.vendorIds, (c.reqEid, c.respEid), c.uuid⟩ p buf = true) :
    let s : Spec.SpecSt := ⟨c.address, c.msgTypes, c.vendorIds, (c.reqEid, c.respEid), c.uuid⟩
    let r := process c p buf
    (match Spec.refDecode p with
     | .err e => r = (c, .err e, buf)
     | .panic k => r = (c, .panic k, buf)
     | .ok d =>
       if Spec.isControl p && Spec.isRequest p then
         match Spec.dispatchPanicClass c.vendorIds.length p with
         | some k => r.2.1 = .panic k ∧ r.2.2 = buf
         | none =>
           ∃ body, Spec.expectedResponse s p = some body ∧
             r.2.1 = .ok (d, some (10 + body.length)) ∧
             Spec.respBody r.2.2 (10 + body.length) = body ∧
             Spec.respondsTo c.address p (r.2.2.take (10 + body.length)) (10 + body.length) = true ∧
             r.2.2.drop (10 + body.length) = buf.drop (10 + body.length) ∧
             (r.1.reqEid, r.1.respEid) = Spec.eidsStep (c.reqEid, c.respEid) (.process p buf)
       else r = (c, .ok (d, none), buf)) := by
  intro s r
  rw [← decode_eq_ref p]
  have hpd : r = _ := Proc.process_eq_decode c p buf
  cases hd : decode p with
  | err _ | panic _ => rw [hd] at hpd; exact hpd
  | ok d =>
    rw [hd] at hpd
    show if (Spec.isControl p && Spec.isRequest p) = true then _ else _
    cases hcr : (Spec.isControl p && Spec.isRequest p)
    · rw [hcr] at hpd; exact hpd
    obtain ⟨ha, hu, rfl⟩ := Proc.decode_ok_request hd hcr
    have hs := Proc.arm_spec c p (byteAt p 6) hc
    rcases harm : Proc.arm c (Spec.cmdOf p) (byteAt p 11) (byteAt p 12) with ⟨c', k | e⟩ <;> rw [harm] at hs
    · -- the arm panics before any encoder call
      rw [hs.2 ha hu]
      show (process c p buf).2.1 = _ ∧ (process c p buf).2.2 = _
      rw [Proc.process_request c p buf ha hu, harm]
      exact ⟨rfl, rfl⟩
    · -- the arm answers: the reference packet carries the prescribed response, and it fits
      obtain ⟨hdp, haddr, cc, rest, hexp, hlen, href⟩ := hs
      have e : 10 + (0x00#8 :: Spec.cmdOf p :: cc :: rest).length = 13 + rest.length := by
        simp only [List.length_cons]; omega
      have hfit : 13 + rest.length ≤ buf.length := by
        unfold respFits at hb; rw [hexp] at hb; exact e ▸ of_decide_eq_true hb
      obtain ⟨_, hp, rfl, -⟩ := Proc.process_answer ha rfl harm href rfl hfit
      rw [haddr] at hp
      rw [hdp]
      refine ⟨_, hexp, ?_⟩
      show (process c p buf).2.1 = _ ∧ Spec.respBody (process c p buf).2.2 _ = _ ∧
        Spec.respondsTo _ _ ((process c p buf).2.2.take _) _ = _ ∧ (process c p buf).2.2.drop _ = _ ∧
        ((process c p buf).1.reqEid, (process c p buf).1.respEid) = _
      rw [e, Proc.process_eids, hp]
      obtain ⟨h1, h2, h3⟩ := Proc.response_clauses c.address p cc rest (buf.drop (13 + rest.length)) (by omega)
      exact ⟨rfl, h1, h2, h3, rfl⟩

/-- 64 bytes hold every response the specification prescribes under a valid configuration: the arm for the
request either panics, and then none is prescribed, or answers with at most 3 + 31 bytes -/
theorem respFits_of_64 (c : Ctx) (p buf : Bytes) (hc : Spec.configOk c = true) (hb : 64 ≤ buf.length) :
    respFits ⟨c.address, c.msgTypes, c.vendorIds, (c.reqEid, c.respEid), c.uuid⟩ p buf = true := by
  unfold respFits
  have hs := Proc.arm_spec c p 0#8 hc
  rcases harm : Proc.arm c (Spec.cmdOf p) (byteAt p 11) (byteAt p 12) with ⟨c', k | e⟩ <;> rw [harm] at hs
  · rw [hs.1]
  · obtain ⟨-, -, cc, rest, hexp, hlen, -⟩ := hs
    rw [hexp]
    simp only [List.length_cons, decide_eq_true_eq]
    omega

/-- the same for a response buffer of at least 64 bytes -/
theorem process_eq_ref (c : Ctx) (p buf : Bytes) (hc : Spec.configOk c = true) (hb : 64 ≤ buf.length) :
    let s : Spec.SpecSt := ⟨c.address, c.msgTypes, c.vendorIds, (c.reqEid, c.respEid), c.uuid⟩
    let r := process c p buf
    (match Spec.refDecode p with
     | .err e => r = (c, .err e, buf)
     | .panic k => r = (c, .panic k, buf)
     | .ok d =>
       if Spec.isControl p && Spec.isRequest p then
         match Spec.dispatchPanicClass c.vendorIds.length p with
         | some k => r.2.1 = .panic k ∧ r.2.2 = buf
         | none =>
           ∃ body, Spec.expectedResponse s p = some body ∧
             r.2.1 = .ok (d, some (10 + body.length)) ∧
             Spec.respBody r.2.2 (10 + body.length) = body ∧
             Spec.respondsTo c.address p (r.2.2.take (10 + body.length)) (10 + body.length) = true ∧
             r.2.2.drop (10 + body.length) = buf.drop (10 + body.length) ∧
             (r.1.reqEid, r.1.respEid) = Spec.eidsStep (c.reqEid, c.respEid) (.process p buf)
       else r = (c, .ok (d, none), buf)) :=
  process_eq_ref_fit c p buf hc (respFits_of_64 c p buf hc hb)

/-- the request processor, validly configured and with a response buffer that holds the prescribed
response, panics exactly on the finding classes -/
theorem process_panic_iff (c : Ctx) (p buf : Bytes) (k : Panic) (hc : Spec.configOk c = true)
    (hb : respFits ⟨c.address, c.msgTypes, c.vendorIds, (c.reqEid, c.respEid), c.uuid⟩ p buf = true) :
    (process c p buf).2.1 = .panic k ↔ Spec.processPanicClass c.vendorIds.length p = some k := by
  have h := process_eq_ref_fit c p buf hc hb
  unfold Spec.processPanicClass
  -- off the decoder's panic class the decoder does not panic, and what is not an accepted request
  -- is in no dispatch class
  have hcl : ∀ {x : Out DErr Dec}, Spec.refDecode p = x → (∀ k, x ≠ .panic k) → Spec.decodePanicClass p = none := by
    intro x hx hk
    cases hc : Spec.decodePanicClass p with
    | none => rfl
    | some k0 => exact absurd (((ref_panic_iff p k0).mpr hc) ▸ hx).symm (hk k0)
  have hdc : (∀ d, Spec.refDecode p = .ok d → (Spec.isControl p && Spec.isRequest p) = false) →
      (∀ k, Spec.refDecode p ≠ .panic k) → Spec.dispatchPanicClass c.vendorIds.length p = none := by
    intro hn hk
    cases ha : Spec.isAcceptedRequest p
    · unfold Spec.dispatchPanicClass; rw [ha]; rfl
    · have hd := Proc.decode_accepted_cases ha
      split at hd
      · exact absurd hd (hk _)
      · exact absurd ((hn _ hd).symm.trans (Proc.accepted_ctrl_req ha)) Bool.false_ne_true
  cases hd : Spec.refDecode p <;> rw [hd] at h
  case err e =>
    rw [show process c p buf = _ from h, hcl hd (fun _ h => nomatch h), hdc (fun d h => nomatch hd.symm.trans h) (fun k h => nomatch hd.symm.trans h)]
    exact ⟨nofun, nofun⟩
  case panic k' =>
    rw [show process c p buf = _ from h, (ref_panic_iff p k').mp hd, Out.panic.injEq, Option.some.injEq]
  case ok d =>
    rw [hcl hd (fun _ h => nomatch h)]
    cases hcr : (Spec.isControl p && Spec.isRequest p) <;> rw [hcr] at h
    · rw [show process c p buf = _ from h, hdc (fun _ _ => hcr) (fun k h => nomatch hd.symm.trans h)]
      exact ⟨nofun, nofun⟩
    · cases hx : Spec.dispatchPanicClass c.vendorIds.length p <;> rw [hx] at h
      · obtain ⟨body, -, h2, -⟩ := h
        rw [h2]
        exact ⟨nofun, nofun⟩
      · rw [h.1, Out.panic.injEq, Option.some.injEq]

theorem answerable_inv {n : Nat} {p : Bytes} (ha : Spec.answerable n p = true) :
    Spec.isAcceptedRequest p = true ∧ (Spec.isControl p && Spec.isRequest p) = true ∧
    Spec.refDecode p = .ok (.control, 11, p.length - 12) ∧ Spec.dispatchPanicClass n p = none := by
  unfold Spec.answerable Spec.processPanicClass at ha
  simp only [Bool.and_eq_true, Option.isNone_iff_eq_none] at ha
  obtain ⟨ha, hpc⟩ := ha
  have hd := Proc.decode_accepted_cases ha
  cases hcl : Spec.decodePanicClass p <;> rw [hcl] at hpc
  case some k => cases hpc
  refine ⟨ha, Proc.accepted_ctrl_req ha, ?_, hpc⟩
  split at hd
  · rw [(ref_panic_iff p _).mp hd] at hcl; cases hcl
  · exact hd

theorem answerable_answered (c : Ctx) (p buf : Bytes) (hc : Spec.configOk c = true)
    (hb : respFits ⟨c.address, c.msgTypes, c.vendorIds, (c.reqEid, c.respEid), c.uuid⟩ p buf = true)
    (ha : Spec.answerable c.vendorIds.length p = true) :
    ∃ d body, Spec.expectedResponse ⟨c.address, c.msgTypes, c.vendorIds, (c.reqEid, c.respEid), c.uuid⟩ p = some body ∧
      (process c p buf).2.1 = .ok (d, some (10 + body.length)) ∧
      Spec.respBody (process c p buf).2.2 (10 + body.length) = body ∧
      Spec.respondsTo c.address p ((process c p buf).2.2.take (10 + body.length)) (10 + body.length) = true := by
  obtain ⟨-, hcr, hd, hdp⟩ := answerable_inv ha
  have h := process_eq_ref_fit c p buf hc hb
  simp only [hd, hcr, hdp] at h
  obtain ⟨body, h1, h2, h3, h4, -⟩ := h
  exact ⟨_, body, h1, h2, h3, h4⟩

end Refine
end Mctp
