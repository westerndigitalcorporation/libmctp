/-
C09 — the decoder accepts exactly the well-formed packets and its errors are truthful.
The model's decoder has no context argument: the outcome is a function of the bytes alone
(the correspondence check compares the real decoder across differing contexts).
Acceptance is read off the five regions of the reference decoder (`refDecode_cases`), payload and errors
off the decoder's inversions (`decode_ok_inv`, `decode_err_inv`); inside the claim the finding classes and the
three excluded response commands are gone, so the library's length table is the specification's
(`inClaim_inv`).
-/
import Mctp.Lemmas.Decode
namespace Mctp
namespace C09
open Spec

theorem inClaim_inv {p : Bytes} (h : inClaim p = true) :
    10 ≤ p.length ∧ (∀ k, refDecode p ≠ .panic k) ∧
    (isControl p = true →
      12 ≤ p.length ∧
      (isRequest p = false → 13 ≤ p.length ∧ respFixedLib (cmdOf p) = respFixed (cmdOf p))) := by
  unfold inClaim longEnough at h
  simp only [Bool.and_eq_true, decide_eq_true_eq, Bool.not_eq_true', Option.isNone_iff_eq_none] at h
  obtain ⟨⟨⟨h10, hlong⟩, hexcl⟩, hpan⟩ := h
  refine ⟨h10, fun k hk => ?_, fun hc => ?_⟩
  · rw [(Refine.ref_panic_iff p k).mp hk] at hpan
    cases hpan
  rw [hc] at hlong hexcl
  cases hr : isRequest p <;> rw [hr] at hlong
  · have h13 : 13 ≤ p.length := of_decide_eq_true hlong
    refine ⟨by omega, fun _ => ⟨h13, ?_⟩⟩
    rw [hr] at hexcl
    simp only [Bool.true_and, Bool.not_false, Bool.or_eq_false_iff, beq_eq_false_iff_ne] at hexcl
    unfold respFixedLib
    rw [if_neg hexcl.1.1, if_neg hexcl.1.2, if_neg hexcl.2]
  · exact ⟨of_decide_eq_true hlong, nofun⟩

theorem accept_iff (p : Bytes) (h : Spec.inClaim p = true) :
    (decode p).isOk = Spec.accept p := by
  obtain ⟨h10, hnp, hcl⟩ := inClaim_inv h
  rw [Refine.decode_eq_ref]
  unfold accept
  rcases refDecode_cases p with ⟨h1, e⟩ | ⟨-, hh, hc, e⟩ | ⟨-, hh, hc, hs, e⟩ | ⟨-, hh, hc, hr, e⟩ | ⟨-, hh, hc, hr, e⟩
  · rw [e]
    rcases h1 with h1 | h1
    · omega
    · rw [h1]; rfl
  · rw [e, hh, hc]; cases pecOk p <;> rfl
  · obtain ⟨h12, hp⟩ := hcl hc
    rcases hs with hs | ⟨hr, hs⟩
    · omega
    · have := (hp hr).1; omega
  · rw [hh, hc, hr]
    cases hu : reqUnimpl (cmdOf p)
    · rw [e, hu]
      cases pecOk p <;> cases lenFits (reqFixed (cmdOf p)) (p.length - 12) <;> rfl
    · rw [hu] at e
      exact absurd e (hnp _)
  · rw [hh, hc, hr, ← ((hcl hc).2 hr).2]
    by_cases hcc : ccByte p = 0x00#8
    · rw [if_neg (fun h => h hcc)] at e
      cases hu : respUnimpl (cmdOf p)
      · rw [e, hu, hcc]
        cases pecOk p <;> cases lenFits (respFixedLib (cmdOf p)) (p.length - 13) <;> rfl
      · rw [hu] at e
        exact absurd e (hnp _)
    · rw [if_pos hcc] at e
      by_cases h6 : 6 ≤ (ccByte p).toNat
      · rw [if_pos h6] at e
        exact absurd e (hnp _)
      · rw [e, if_neg h6]
        simp [hcc, Out.isOk]

/-- the accepted payload is precisely the bytes between the message header and the PEC -/
theorem payload (p : Bytes) (t : MsgType) (off len : Nat) (h : decode p = .ok (t, off, len)) :
    t = Spec.msgTypeOf p ∧ off = Spec.hdrEnd p ∧ off + len = p.length - 1 ∧ off ≤ p.length - 1 := by
  unfold hdrEnd
  obtain ⟨-, -, ⟨hc, h10, hd⟩ | ⟨hc, hr, h12, -, -, hd⟩ | ⟨hc, hr, h13, -, -, -, hd⟩⟩ := decode_ok_inv h <;>
    cases hd
  · rw [hc]; exact ⟨rfl, rfl, by omega, by omega⟩
  all_goals rw [hc, hr, msgTypeOf_of_isControl p hc]; exact ⟨rfl, rfl, by omega, by omega⟩

/-- every rejection names a condition that really holds of the input -/
theorem truthful (p : Bytes) (e : DErr) (hc : Spec.inClaim p = true) (h : decode p = .err e) :
    Spec.errTruthful p e = true := by
  obtain ⟨h10, -, hcl⟩ := inClaim_inv hc
  obtain ⟨t, e⟩ := e
  rcases decode_err_inv h with ⟨rfl, rfl, h1⟩ | ⟨-, -, -, ⟨rfl, hp⟩ | ⟨rfl, hct, hl⟩ | ⟨rfl, hct, hr, h13, hcc, h6⟩⟩
  · rcases h1 with h1 | h1
    · omega
    · simp [errTruthful, h1]
  · simp [errTruthful, hp]
  · -- inside the claim the packet holds its headers, so what failed is the table's length
    obtain ⟨h12, hp⟩ := hcl hct
    rcases hl with hs | ⟨hr, hs⟩ | ⟨hr, hl⟩ | ⟨hr, hl⟩
    · omega
    · have := (hp hr).1; omega
    · simp [errTruthful, hct, hr, hl]
    · simp [errTruthful, hct, hr, ← (hp hr).2, hl]
  · simp [errTruthful, hct, hr, h13, ccOfByte_toByte _ hcc h6]

/-- an error reports message type Invalid or the packet's real type -/
theorem err_type (p : Bytes) (t : MsgType) (e : DecErr) (h : decode p = .err (t, e)) :
    t = .invalid ∨ (Spec.hdrOk p = true ∧ t = Spec.msgTypeOf p) := by
  rcases decode_err_inv h with ⟨ht, -⟩ | ⟨-, hh, ht, -⟩
  · exact .inl ht
  · exact .inr ⟨hh, ht⟩

end C09
end Mctp
