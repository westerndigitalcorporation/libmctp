/-
Closed forms of the public header constructors (extends C18: "header views read and write exactly
their documented bit positions" to the constructors built from the setters), for all argument values.
Each is read off `C18.set_layout` (one rewrite per setter call, on the literal zero buffer) or
`C18.pci_set` / `C18.iana_set`; what is left per byte is constant folding and `ofNat_toNat_mod`.
-/
import Mctp.Model.Ctors
import Mctp.Props.C18
namespace Mctp
namespace Ctors

/-- Rq bit 7, D bit 6, reserved bit 5 clear, instance ID truncated to 5 bits, then the command code -/
theorem ctrl_new (rq d : Bool) (iid : B) (cmd : Cmd) :
    ctrlHeaderNew rq d iid cmd =
      [(if rq then 0x80#8 else 0x00#8) ||| (if d then 0x40#8 else 0x00#8) ||| (iid &&& 0x1F#8), cmd.toByte] := by
  simp only [ctrlHeaderNew, C18.set_layout CtrlHdr.rq ⟨0, 7, 1⟩ (by decide +kernel),
    C18.set_layout CtrlHdr.d ⟨0, 6, 1⟩ (by decide +kernel), C18.set_layout CtrlHdr.instanceId ⟨0, 0, 5⟩ (by decide +kernel),
    C18.set_layout CtrlHdr.commandCode ⟨1, 0, 8⟩ (by decide +kernel),
    List.length_cons, List.length_nil, Nat.reduceAdd, Nat.reduceLT, List.set, byteAt, List.getD_cons_zero,
    List.getD_cons_succ, ofNat_toNat_mod]
  cases rq <;> cases d <;> simp [C18.Layout.mask, and_255]

/-- the library's own header (`new(rq, false, 0, cmd)`) is the special case -/
theorem ctrl_new_lib (rq : Bool) (cmd : Cmd) : ctrlHeaderNew rq false 0x00#8 cmd = ctrlHeader rq cmd := rfl

/-- version truncated to its 4-bit field, reserved bits and everything else zero -/
theorem transport_new (v : B) : transportHeaderNew v = [v &&& 0x0F#8, 0x00#8, 0x00#8, 0x00#8] := by
  simp only [transportHeaderNew, C18.set_layout TransportHdr.hdrVersion ⟨0, 0, 4⟩ (by decide +kernel),
    List.length_cons, List.length_nil, Nat.reduceAdd, Nat.reduceLT, List.set, byteAt, List.getD_cons_zero,
    ofNat_toNat_mod]
  simp [C18.Layout.mask]

/-- a header built by `new(version)` is accepted by `new_from_buf(_, version)` exactly for 4-bit versions -/
theorem transport_new_from_buf (v : B) :
    transportFromBufOk (transportHeaderNew v) v = decide (v.toNat < 16) := by
  rw [transport_new, C18.transport_from_buf]
  revert v
  apply forall_byte; decide +kernel

theorem body_new (t : MsgType) : bodyHeaderNew false t = .ok [t.toByte &&& 0x7F#8] := by
  simp only [bodyHeaderNew, bodyHeader, C18.set_layout BodyHdr.ic ⟨0, 7, 1⟩ (by decide +kernel),
    C18.set_layout BodyHdr.msgType ⟨0, 0, 7⟩ (by decide +kernel),
    List.length_cons, List.length_nil, Nat.reduceAdd, Nat.reduceLT, List.set, byteAt, List.getD_cons_zero,
    ofNat_toNat_mod]
  simp [C18.Layout.mask]

theorem body_new_ic (t : MsgType) : bodyHeaderNew true t = .panic ⟨.explicit, .base⟩ := rfl

/-- entry type truncated to 4 bits, reserved nibble zero, then the three bytes verbatim -/
theorem routing_new (etype size first phys : B) :
    routingEntryNew etype size first phys = [etype &&& 0x0F#8, size, first, phys] := by
  simp only [routingEntryNew, C18.set_layout RoutingEntry.entryType ⟨0, 0, 4⟩ (by decide +kernel),
    C18.set_layout RoutingEntry.eidRangeSize ⟨1, 0, 8⟩ (by decide +kernel),
    C18.set_layout RoutingEntry.firstEid ⟨2, 0, 8⟩ (by decide +kernel),
    C18.set_layout RoutingEntry.physicalAddress ⟨3, 0, 8⟩ (by decide +kernel),
    List.length_cons, List.length_nil, Nat.reduceAdd, Nat.reduceLT, List.set, byteAt, List.getD_cons_zero,
    List.getD_cons_succ, ofNat_toNat_mod]
  simp [C18.Layout.mask, and_255]

theorem pci_new (v : BitVec 16) : pciFormatNew v = [(v >>> 8).setWidth 8, v.setWidth 8] := by
  rw [pciFormatNew, C18.pci_set _ _ (by decide), setWidth_ushiftRight]
  rfl

theorem iana_new (v : BitVec 32) :
    ianaFormatNew v = [(v >>> 24).setWidth 8, (v >>> 16).setWidth 8, (v >>> 8).setWidth 8, v.setWidth 8] := by
  rw [ianaFormatNew, C18.iana_set _ _ (by decide), setWidth_ushiftRight, setWidth_ushiftRight, setWidth_ushiftRight]
  rfl

end Ctors
end Mctp
