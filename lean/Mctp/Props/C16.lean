/-
C16 — encoders write exactly the reported bytes and refuse documented-invalid input.
Also the refinement every other encoder property rests on: an encoder call on a caller
buffer is the pure packet spliced over the front of the buffer.
-/
import Mctp.Lemmas.Packet
namespace Mctp
namespace C16

/-- the buffer form refines the pure form -/
theorem refine (c : Ctx) (dst : B) (e : Enc) (buf pkt : Bytes)
    (hb : encodeBytes c dst e = .ok pkt) (hl : pkt.length ≤ buf.length) :
    encode c dst e buf = .ok (pkt ++ buf.drop pkt.length, pkt.length) := by
  have h := encode_cases c dst e buf
  rw [hb] at h
  exact (if_pos hl).mp h

/-- every successful call is the pure packet over the front of the buffer: exactly the first
`n` bytes are written, the rest is untouched, and bytes and length do not depend on the buffer -/
theorem ok_inv (c : Ctx) (dst : B) (e : Enc) (buf buf' : Bytes) (n : Nat)
    (h : encode c dst e buf = .ok (buf', n)) :
    ∃ pkt, encodeBytes c dst e = .ok pkt ∧ n = pkt.length ∧ n ≤ buf.length ∧
      buf' = pkt ++ buf.drop n := by
  have hc := encode_cases c dst e buf
  rw [h] at hc
  cases hb : encodeBytes c dst e <;> rw [hb] at hc <;> dsimp only at hc
  · split at hc
    · obtain ⟨rfl, rfl⟩ := Prod.mk.inj (Out.ok.inj hc)
      exact ⟨_, rfl, rfl, ‹_›, rfl⟩
    · obtain ⟨p, hp⟩ := hc; cases hp
  · cases hc
  · obtain ⟨p, hp⟩ := hc; cases hp

theorem written_exactly (c : Ctx) (dst : B) (e : Enc) (buf buf' : Bytes) (n : Nat)
    (h : encode c dst e buf = .ok (buf', n)) :
    buf'.length = buf.length ∧ buf'.drop n = buf.drop n := by
  obtain ⟨pkt, -, rfl, hl, rfl⟩ := ok_inv c dst e buf buf' n h
  constructor
  · simp; omega
  · simp

theorem independent_of_buffer (c : Ctx) (dst : B) (e : Enc) (b1 b1' b2 b2' : Bytes) (n1 n2 : Nat)
    (h1 : encode c dst e b1 = .ok (b1', n1)) (h2 : encode c dst e b2 = .ok (b2', n2)) :
    n1 = n2 ∧ b1'.take n1 = b2'.take n2 := by
  obtain ⟨p1, e1, rfl, -, rfl⟩ := ok_inv c dst e b1 b1' n1 h1
  obtain ⟨p2, e2, rfl, -, rfl⟩ := ok_inv c dst e b2 b2' n2 h2
  rw [e1] at e2; cases e2
  simp

/-- an error leaves the buffer untouched (errors carry no buffer: the model returns none) and
happens exactly when the pure form errs -/
theorem err_iff (c : Ctx) (dst : B) (e : Enc) (buf : Bytes) :
    encode c dst e buf = .err () ↔ encodeBytes c dst e = .err () := by
  have hc := encode_cases c dst e buf
  cases hb : encodeBytes c dst e <;> rw [hb] at hc <;> dsimp only at hc
  · split at hc
    · rw [hc]; simp
    · obtain ⟨p, hp⟩ := hc; rw [hp]; simp
  · rw [hc]; simp
  · obtain ⟨p, hp⟩ := hc; rw [hp]; simp

/-- documented-invalid arguments are refused -/
theorem refuse_documented (c : Ctx) (dst : B) (e : Enc) (buf : Bytes)
    (h : Spec.documentedInvalid e = true) : encode c dst e buf = .err () := by
  unfold encode
  rw [(body_err_iff c e).mpr h, Out.bind_err]

/-- every other well-shaped argument that fits the SMBus frame succeeds, without panicking,
given a buffer at least as long as the packet -/
theorem accept_others (c : Ctx) (dst : B) (e : Enc) (buf : Bytes)
    (hd : Spec.documentedInvalid e = false) (ha : Spec.argsOk e = true) (hs : e.isStub = false) :
    ∃ t h d, e.body c = .ok (t, h, d) ∧
      (1 + optLen h + d.length ≤ 250 → 10 + optLen h + d.length ≤ buf.length →
        ∃ buf', encode c dst e buf = .ok (buf', 10 + optLen h + d.length)) ∧
      (250 < 1 + optLen h + d.length → encode c dst e buf = .err ()) := by
  cases hb : e.body c with
  | ok a =>
    obtain ⟨t, h, d⟩ := a
    have hg := genPacket_cases c.address dst t h d buf
    rw [msgOf_length] at hg
    refine ⟨t, h, d, rfl, ?_, ?_⟩
    · intro hf hl
      rw [if_neg (by omega), if_pos (by omega)] at hg
      exact ⟨_, by rw [encode_of_body hb hs, hg]; congr 2; omega⟩
    · intro hbig
      rw [if_pos hbig] at hg
      rw [encode_of_body hb hs, hg]
  | err u => rw [(body_err_iff c e).mp hb] at hd; cases hd
  | panic p => rw [body_panic c e p hb] at ha; cases ha

/-- errors are exactly: documented-invalid arguments, or a body that does not fit -/
theorem err_only_if (c : Ctx) (dst : B) (e : Enc) (buf : Bytes) (ha : Spec.argsOk e = true)
    (h : encode c dst e buf = .err ()) :
    Spec.documentedInvalid e = true ∨
      ∃ t hd d, e.body c = .ok (t, hd, d) ∧ 250 < 1 + optLen hd + d.length := by
  have _ := ha   -- not needed
  rw [err_iff] at h
  rcases Out.bind_eq_err.mp h with hb | ⟨⟨t, hd, d⟩, hb, h⟩
  · exact .inl ((body_err_iff c e).mp hb)
  · refine .inr ⟨t, hd, d, hb, ?_⟩
    simp only [] at h
    split at h
    · cases h
    · split at h
      · assumption
      · cases h

end C16
end Mctp
