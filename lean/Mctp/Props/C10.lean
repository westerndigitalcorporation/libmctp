/-
C10 — the receive path returns a result for every input instead of crashing
(partial: findings D3, D10, D11 — the classes below are exactly where it panics).
-/
import Mctp.Props.Refine
import Mctp.Lemmas.Ops
import Mctp.Props.C17
namespace Mctp

theorem Proc.decode_panic_iff (p : Bytes) (k : Panic) :
    decode p = .panic k ↔ Spec.decodePanicClass p = some k := by
  rw [Refine.decode_eq_ref]; exact Refine.ref_panic_iff p k

namespace C10

/-- the decoder panics exactly on the finding classes, with exactly that panic -/
theorem decode_panic_iff (p : Bytes) (k : Panic) :
    decode p = .panic k ↔ Spec.decodePanicClass p = some k :=
  Proc.decode_panic_iff p k

theorem decode_no_panic_partial (p : Bytes) (h : Spec.decodePanicClass p = none) :
    (decode p).isPanic = false := by
  cases hd : decode p with
  | panic k => rw [(decode_panic_iff p k).mp hd] at h; simp at h
  | _ => rfl

theorem getLength_never_panics (p : Bytes) : (getLength p).isPanic = false :=
  C17.never_panics p

/-- the request processor, validly configured and with a response buffer of ≥ 64 bytes,
panics exactly on the finding classes -/
theorem process_panic_iff (c : Ctx) (p buf : Bytes) (k : Panic)
    (hc : Spec.configOk c = true) (hb : 64 ≤ buf.length) :
    (process c p buf).2.1 = .panic k ↔ Spec.processPanicClass c.vendorIds.length p = some k :=
  Refine.process_panic_iff c p buf k hc (Refine.respFits_of_64 c p buf hc hb)

theorem process_no_panic_partial (c : Ctx) (p buf : Bytes)
    (hc : Spec.configOk c = true) (hb : 64 ≤ buf.length)
    (h : Spec.processPanicClass c.vendorIds.length p = none) :
    (process c p buf).2.1.isPanic = false := by
  cases hd : (process c p buf).2.1 with
  | panic k => rw [(process_panic_iff c p buf k hc hb).mp hd] at h; simp at h
  | _ => rfl

/-- a valid configuration stays valid: the claim holds after every prior history -/
theorem config_preserved (c : Ctx) (ops : List Op) (hc : Spec.configOk c = true) :
    Spec.configOk (runOps c ops).1 = true :=
  Proc.runOps_inv (Spec.configOk · = true) Proc.configOk_stepOp ops c hc

end C10
end Mctp
