/-
C03 — every encoded packet ends with the correct SMBus PEC.
-/
import Mctp.Props.RefineEnc
namespace Mctp
namespace C03

/-- the library's byte-wise CRC-8 is the bit-serial SMBus PEC (poly x^8+x^2+x+1, init 0,
MSB first, no reflection, no final XOR) -/
theorem crc8_eq_spec (xs : Bytes) : crc8 xs = Spec.crc xs := Mctp.crc8_eq_spec xs

/-- every successfully encoded packet: last byte = PEC of the rest; CRC of the whole packet is zero -/
theorem pec (c : Ctx) (dst : B) (e : Enc) (buf buf' : Bytes) (n : Nat)
    (h : encode c dst e buf = .ok (buf', n)) :
    Spec.pecOk (buf'.take n) = true ∧ Spec.crc (buf'.take n) = 0#8 := by
  rw [RefineEnc.encode_ok_take h]
  exact ⟨pecOk_frame _ _ _, crc_frame _ _ _⟩

/-- the standard check value of CRC-8/SMBUS ("123456789" ↦ 0xF4) — a test, not a proof -/
example : Spec.crc [0x31#8, 0x32#8, 0x33#8, 0x34#8, 0x35#8, 0x36#8, 0x37#8, 0x38#8, 0x39#8] = 0xF4#8 := by
  decide +kernel

end C03
end Mctp
