/-
C15 — the responder reports the identity it was configured with.
-/
import Mctp.Lemmas.Ops
namespace Mctp
namespace C15

/-- no operation changes the configuration; the UUID changes only through `set_uuid` -/
theorem config_invariant (c : Ctx) (op : Op) :
    (stepOp c op).1.msgTypes = c.msgTypes ∧ (stepOp c op).1.vendorIds = c.vendorIds ∧
    (stepOp c op).1.address = c.address ∧ (stepOp c op).1.uuid = Spec.uuidStep c.uuid op :=
  Proc.stepOp_fields c op

theorem history (a : B) (ts : Bytes) (vs : List VendorId) (ops : List Op) :
    let c := (runOps (Ctx.new a ts vs) ops).1
    c.msgTypes = ts ∧ c.vendorIds = vs ∧ c.address = a ∧ c.uuid = Spec.uuid ops :=
  Proc.runOps_fields (Ctx.new a ts vs) ops

/-- Get Message Type Support: count then the configured list, in order -/
theorem types (c : Ctx) (p buf : Bytes) (hb : 64 ≤ buf.length) (ht : c.msgTypes.length ≤ 30)
    (ha : Spec.isAcceptedRequest p = true) (hcmd : Spec.cmdOf p = 0x05#8) :
    ∃ d buf', process c p buf = (c, .ok (d, some (14 + c.msgTypes.length)), buf') ∧
      Spec.sub buf' 9 (13 + c.msgTypes.length) =
        [0x00#8, 0x05#8, 0x00#8, BitVec.ofNat 8 c.msgTypes.length] ++ c.msgTypes := by
  obtain ⟨buf', hp, -, hs⟩ := Proc.process_answer (c' := c) (buf := buf) (n := 14 + c.msgTypes.length) ha hcmd
    rfl (RefineEnc.ref_msgTypes ht) (by simp; omega) (by omega)
  rw [show 14 + c.msgTypes.length - 1 = 13 + c.msgTypes.length by omega] at hs
  exact ⟨_, _, hp, hs⟩

/-- Get Endpoint UUID: the 16 bytes most recently installed -/
theorem uuid (c : Ctx) (p buf : Bytes) (hb : 64 ≤ buf.length) (hu : c.uuid.length = 16)
    (ha : Spec.isAcceptedRequest p = true) (hcmd : Spec.cmdOf p = 0x03#8) :
    ∃ d buf', process c p buf = (c, .ok (d, some 29), buf') ∧
      Spec.sub buf' 9 28 = [0x00#8, 0x03#8, 0x00#8] ++ c.uuid := by
  obtain ⟨buf', hp, -, hs⟩ := Proc.process_answer (c' := c) (buf := buf) (n := 29) ha hcmd rfl
    (RefineEnc.ref_uuid (by omega)) (by omega) (by omega)
  exact ⟨_, _, hp, hs⟩

/-- Get MCTP Version Support: one entry, 1.3.1 (F1 F3 F1 00) -/
theorem version (c : Ctx) (p buf : Bytes) (hb : 64 ≤ buf.length)
    (ha : Spec.isAcceptedRequest p = true) (hcmd : Spec.cmdOf p = 0x04#8) :
    ∃ d buf', process c p buf = (c, .ok (d, some 18), buf') ∧
      Spec.sub buf' 9 17 = [0x00#8, 0x04#8, 0x00#8, 0x01#8, 0xF1#8, 0xF3#8, 0xF1#8, 0x00#8] := by
  obtain ⟨buf', hp, -, hs⟩ :=
    Proc.process_answer (c' := c) (buf := buf) ha hcmd rfl RefineEnc.ref_version rfl (by simp; omega)
  exact ⟨_, _, hp, hs⟩

end C15
end Mctp
