/-
C17 — the length probe is a function of the first three bytes only.
-/
import Mctp.Model.Decode
import Mctp.Lemmas.Headers
namespace Mctp
namespace C17

/-- closed form: `byte[2] + 4` exactly when `byte[1] = 0x0F`, else (Invalid, Unknown);
inputs shorter than three bytes are rejected -/
theorem spec (p : Bytes) :
    getLength p =
      if p.length < 3 then .err (.invalid, .unknown)
      else if byteAt p 1 = 0x0F#8 then .ok ((byteAt p 2).toNat + 4)
      else .err (.invalid, .unknown) := by
  have h : ∀ b : B, (b.toNat = 0x0F) = (b = 0x0F#8) :=
    fun b => propext ⟨fun h => BitVec.eq_of_toNat_eq h, fun h => h ▸ rfl⟩
  unfold getLength
  simp only [smbus_cmd_get, smbus_count_get, h]
  rfl

/-- the probe of a byte string is the probe of its first three bytes -/
theorem take3 (p : Bytes) : getLength (p.take 3) = getLength p := by
  rw [spec, spec, List.length_take]
  by_cases h : p.length < 3
  · rw [if_pos h, if_pos (by omega)]
  · rw [if_neg h, if_neg (by omega), byteAt_take p 3 1 (by omega), byteAt_take p 3 2 (by omega)]

/-- depends on nothing but the first three bytes -/
theorem prefix_only (p q : Bytes) (hp : 3 ≤ p.length) (hq : 3 ≤ q.length) (h : p.take 3 = q.take 3) :
    getLength p = getLength q := by
  have _ := hp; have _ := hq   -- not needed: `take3` holds of shorter inputs too
  rw [← take3 p, h, take3 q]

theorem never_panics (p : Bytes) : (getLength p).isPanic = false := by
  rw [spec]; repeat' split
  all_goals rfl

example : getLength [0x46#8, 0x0F#8, 0x0A#8] = .ok 14 := by decide +kernel
example : getLength [0x46#8, 0x0E#8, 0x0A#8, 0x00#8] = .err (.invalid, .unknown) := by decide +kernel

end C17
end Mctp
