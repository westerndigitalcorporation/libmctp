/-
C12 — responses are well-formed and correlate with the request they answer
(partial: finding D12 — the instance ID is always 0).
-/
import Mctp.Props.Refine
namespace Mctp
namespace C12

/-- every answerable request gets a well-formed response addressed back to the requester
from the responder's own address, with the request bit clear and the same command code -/
theorem answer_partial (c : Ctx) (p buf : Bytes)
    (hc : Spec.configOk c = true) (hb : 64 ≤ buf.length)
    (ha : Spec.answerable c.vendorIds.length p = true) :
    ∃ c' d n buf', process c p buf = (c', .ok (d, some n), buf') ∧
      Spec.respondsTo c.address p (buf'.take n) n = true := by
  obtain ⟨d, body, -, h2, -, h4⟩ := Refine.answerable_answered c p buf hc (Refine.respFits_of_64 c p buf hc hb) ha
  exact ⟨_, _, _, _, Prod.ext rfl (Prod.ext h2 rfl), h4⟩

/-- a reported response is a control response frame: its first `n` bytes -/
theorem written (c : Ctx) (p buf buf' : Bytes) (c' : Ctx) (d : Dec) (n : Nat)
    (h : process c p buf = (c', .ok (d, some n), buf')) :
    ∃ cc f, (cc = 0x00#8 ∨ cc = 0x02#8) ∧ n = 13 + f.length ∧
      buf'.take n = frame c.address (byteAt p 6) (0x00#8 :: 0x00#8 :: byteAt p 10 :: cc :: f) := by
  obtain ⟨-, -, cc, f, hcc, -, rfl, hp⟩ := Proc.process_ok_some (congrArg (·.2.1) h)
  rw [h] at hp
  exact ⟨cc, f, hcc, rfl, by rw [show buf' = _ from hp]; exact take_resp_frame ..⟩

/-- finding D12: the response's instance ID is 0 whatever the request's -/
theorem instance_zero (c : Ctx) (p buf buf' : Bytes) (c' : Ctx) (d : Dec) (n : Nat)
    (h : process c p buf = (c', .ok (d, some n), buf')) :
    byteAt (buf'.take n) 9 &&& 0x1F#8 = 0x00#8 := by
  obtain ⟨cc, f, -, -, ht⟩ := written c p buf buf' c' d n h
  rw [ht, byteAt_frame _ _ _ 1 (by simp)]
  exact BitVec.zero_and

/-- hence the echo holds exactly for requests with instance ID 0 -/
theorem instance_echo_iff (c : Ctx) (p buf buf' : Bytes) (c' : Ctx) (d : Dec) (n : Nat)
    (h : process c p buf = (c', .ok (d, some n), buf')) :
    Spec.instanceEchoed p (buf'.take n) = (byteAt p 9 &&& 0x1F#8 == 0x00#8) := by
  unfold Spec.instanceEchoed
  rw [instance_zero c p buf buf' c' d n h, Bool.eq_iff_iff, beq_iff_eq, beq_iff_eq]
  exact eq_comm

/-- a completion code follows the command code -/
theorem has_completion_code (c : Ctx) (p buf buf' : Bytes) (c' : Ctx) (d : Dec) (n : Nat)
    (h : process c p buf = (c', .ok (d, some n), buf')) :
    13 ≤ n ∧ (byteAt (buf'.take n) 11 = 0x00#8 ∨ byteAt (buf'.take n) 11 = 0x02#8) := by
  obtain ⟨cc, f, hcc, rfl, ht⟩ := written c p buf buf' c' d n h
  rw [ht, byteAt_frame _ _ _ 3 (by simp)]
  exact ⟨by omega, hcc⟩

end C12
end Mctp
