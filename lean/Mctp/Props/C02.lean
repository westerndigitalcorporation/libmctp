/-
C02 — a packet whose PEC does not match is never accepted or acted upon.
-/
import Mctp.Model.Process
import Mctp.Lemmas.Decode
import Mctp.Lemmas.Burst
namespace Mctp
namespace C02

theorem decode_ok_pec (p : Bytes) (r : Dec) (h : decode p = .ok r) : Spec.pecOk p = true :=
  (decode_ok_inv h).2.1

theorem decode_bad_pec (p : Bytes) (h : Spec.pecOk p = false) : (decode p).isOk = false := by
  cases hd : decode p with
  | ok r => rw [decode_ok_pec p r hd] at h; simp at h
  | err e | panic k => rfl

/-- input failing the PEC test: no success, no response bytes, context unchanged -/
theorem bad_pec_inert (c : Ctx) (p buf : Bytes) (h : Spec.pecOk p = false) :
    ∃ r, process c p buf = (c, r, buf) ∧ r.isOk = false := by
  unfold process
  cases hd : decode p with
  | ok r => rw [decode_ok_pec p r hd] at h; simp at h
  | err e => exact ⟨.err e, rfl, rfl⟩
  | panic k => exact ⟨.panic k, rfl, rfl⟩

/-- … and therefore no later output changes: the rest of any history runs as if it had not happened -/
theorem bad_pec_no_later_effect (c : Ctx) (p buf : Bytes) (ops : List Op) (h : Spec.pecOk p = false) :
    (runOps c (.process p buf :: ops)).1 = (runOps c ops).1 ∧
    (runOps c (.process p buf :: ops)).2.tail = (runOps c ops).2 := by
  obtain ⟨r, hr, _⟩ := bad_pec_inert c p buf h
  simp [runOps, stepOp, hr]

theorem process_ok_pec (c : Ctx) (p buf : Bytes) (r : Dec × Option Nat)
    (h : (process c p buf).2.1 = .ok r) : Spec.pecOk p = true := by
  cases hp : Spec.pecOk p
  · obtain ⟨r', hr, hok⟩ := bad_pec_inert c p buf hp
    rw [hr] at h; simp only at h; rw [h] at hok; simp [Out.isOk] at hok
  · rfl

/-- no corruption of a valid packet confined to eight consecutive bits passes the PEC test -/
theorem burst (p e : Bytes) (hp : Spec.pecOk p = true) (he : Spec.isBurst8 e = true)
    (hl : e.length = p.length) : Spec.pecOk (Spec.xorBytes p e) = false := by
  obtain ⟨_, hcrc⟩ := (pecOk_iff_crc p).mp hp
  cases hx : Spec.pecOk (Spec.xorBytes p e)
  · rfl
  · obtain ⟨_, h0⟩ := (pecOk_iff_crc _).mp hx
    rw [crc8_xorBytes p e hl.symm, hcrc, BitVec.zero_xor] at h0
    exact absurd h0 (crc8_burst_ne_zero e he)

theorem burst_not_accepted (c : Ctx) (p e buf : Bytes) (hp : Spec.pecOk p = true)
    (he : Spec.isBurst8 e = true) (hl : e.length = p.length) :
    (decode (Spec.xorBytes p e)).isOk = false ∧
    ∃ r, process c (Spec.xorBytes p e) buf = (c, r, buf) ∧ r.isOk = false :=
  ⟨decode_bad_pec _ (burst p e hp he hl), bad_pec_inert c _ buf (burst p e hp he hl)⟩

end C02
end Mctp
