/-
History-level frame theorems: operations that cannot matter can be erased from any history without
changing the final context or any other observation.  This is the general form of "no other input
changes it" (C13), "unaffected by any other traffic" (C15) and "changes neither the EID nor any later
output" (C02).
-/
import Mctp.Props.C02
import Mctp.Lemmas.Ops
namespace Mctp
namespace Erase

/-- operations that never change the context: decode-only calls, length probes, encoder calls, and
processed packets whose PEC does not match -/
def inert : Op → Bool
  | .decode _ => true
  | .getLength _ => true
  | .encode _ _ _ => true
  | .process p _ => !Spec.pecOk p
  | _ => false

theorem inert_step (c : Ctx) (op : Op) (h : inert op = true) : (stepOp c op).1 = c := by
  cases op with
  | decode _ | getLength _ | encode _ _ _ => rfl
  | process p buf =>
    obtain ⟨r, hr, _⟩ := C02.bad_pec_inert c p buf (by simpa [inert] using h)
    rw [Proc.stepOp_process, hr]
  | _ => cases h

theorem erase (c : Ctx) (ops : List Op) :
    runOps c (ops.filter fun op => !inert op) =
      ((runOps c ops).1, ((ops.zip (runOps c ops).2).filter fun x => !inert x.1).map (·.2)) := by
  induction ops generalizing c with
  | nil => rfl
  | cons op ops ih =>
    rw [Proc.runOps_cons, List.zip_cons_cons, List.filter_cons, List.filter_cons]
    cases h : inert op with
    | true =>
      simp only [Bool.not_true, Bool.false_eq_true, if_false, ih, inert_step c op h]
    | false =>
      simp only [Bool.not_false, if_true, Proc.runOps_cons, ih, List.map_cons]

/-- erasing every inert operation from a history leaves the final context unchanged -/
theorem erase_ctx (c : Ctx) (ops : List Op) :
    (runOps c ops).1 = (runOps c (ops.filter fun op => !inert op)).1 := by
  rw [erase]

/-- … and leaves every observation of the remaining operations unchanged, in order -/
theorem erase_obs (c : Ctx) (ops : List Op) :
    ((ops.zip (runOps c ops).2).filter fun x => !inert x.1).map (·.2) =
      (runOps c (ops.filter fun op => !inert op)).2 := by
  rw [erase]

/-- the observation of an inert operation itself does not depend on where in the history it occurs,
except through the context it meets: a decode-only call or a length probe is a function of its input -/
theorem decode_obs_context_free (c1 c2 : Ctx) (p : Bytes) :
    (stepOp c1 (.decode p)).2 = (stepOp c2 (.decode p)).2 ∧
    (stepOp c1 (.getLength p)).2 = (stepOp c2 (.getLength p)).2 := ⟨rfl, rfl⟩

end Erase
end Mctp
