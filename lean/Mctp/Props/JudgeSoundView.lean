/-
Soundness of the C18 / C19 judges (`Spec/JudgeView.lean`) with respect to the model: whatever the
model answers to a view / constructor / header / conversion operation, the judge's verdict on that
answer is never `fail`.  With the correspondence (implementation observation = model observation)
this makes a `fail` verdict on the implementation impossible on a tree whose behaviour the model
describes; conversely the judge only consults the literal tables, so a passing verdict means the
documented layout holds.
-/
import Mctp.Spec.JudgeView
import Mctp.Props.C18
import Mctp.Props.C19
import Mctp.Lemmas.Headers
import Mctp.Props.ViewsChecked
import Mctp.Lemmas.Verdict
namespace Mctp
namespace JudgeSoundView
open Spec JudgeSound

/-- every field the driver can name has a shape: the 26 table rows and the two vendor IDs -/
theorem shape_total : ∀ p ∈ C18.table, shapeOf p.1 = some (.bits p.2) := by
  decide +kernel

theorem shape_pci : shapeOf PciFmt.vendorId = some (.be 2) := by decide +kernel
theorem shape_iana : shapeOf IanaFmt.vendorId = some (.be 4) := by decide +kernel

theorem mem_of_layoutOf {f : Field} {l : C18.Layout} (h : layoutOf f = some l) : (f, l) ∈ C18.table := by
  obtain ⟨⟨f', l'⟩, hf, rfl⟩ := Option.map_eq_some_iff.mp h
  have hd := List.find?_some hf
  obtain rfl : f' = f := of_decide_eq_true hd
  exact List.mem_of_find?_eq_some hf

theorem shape_inv {f : Field} {s : Shape} (hs : shapeOf f = some s) :
    (∃ l, s = .bits l ∧ (f, l) ∈ C18.table) ∨ (s = .be 2 ∧ f = PciFmt.vendorId) ∨
      (s = .be 4 ∧ f = IanaFmt.vendorId) := by
  unfold shapeOf at hs
  split at hs
  · rename_i l hl; cases hs; exact .inl ⟨l, rfl, mem_of_layoutOf hl⟩
  · split at hs
    · rename_i h; cases hs; exact .inr (.inl ⟨rfl, h⟩)
    · split at hs
      · rename_i h; cases hs; exact .inr (.inr ⟨rfl, h⟩)
      · cases hs

theorem beGet2 (raw : Bytes) (h : 2 ≤ raw.length) :
    beGet raw 2 = (byteAt raw 0).toNat * 256 + (byteAt raw 1).toNat := by
  match raw, h with
  | a :: b :: rest, _ => simp [beGet, byteAt]

theorem beGet4 (raw : Bytes) (h : 4 ≤ raw.length) :
    beGet raw 4 = (byteAt raw 0).toNat * 16777216 + (byteAt raw 1).toNat * 65536 +
      (byteAt raw 2).toNat * 256 + (byteAt raw 3).toNat := by
  match raw, h with
  | a :: b :: c :: d :: rest, _ => simp [beGet, byteAt]; omega

theorem beBytes2 (v : Nat) : beBytes 2 v = [BitVec.ofNat 8 (v / 256), BitVec.ofNat 8 v] := by
  simp [beBytes, List.range, List.range.loop]

theorem beBytes4 (v : Nat) : beBytes 4 v =
    [BitVec.ofNat 8 (v / 16777216), BitVec.ofNat 8 (v / 65536), BitVec.ofNat 8 (v / 256), BitVec.ofNat 8 v] := by
  simp [beBytes, List.range, List.range.loop]

/-- a field with a shape is read and written as its shape says, on every buffer that reaches it -/
theorem shape_sound {f : Field} {s : Shape} (hs : shapeOf f = some s) :
    f.msb / 8 = s.top ∧
      ∀ raw : Bytes, s.top < raw.length → f.get raw = s.get raw ∧ ∀ v, f.set raw v = s.set raw v := by
  rcases shape_inv hs with ⟨l, rfl, hm⟩ | ⟨rfl, rfl⟩ | ⟨rfl, rfl⟩
  · exact ⟨(C18.table_facts _ hm).2.1, fun raw h =>
      ⟨C18.get_layout f l hm raw, fun v => C18.set_layout f l hm raw v h⟩⟩
  · refine ⟨rfl, fun raw h => ?_⟩
    have h2 : 2 ≤ raw.length := by simp [Shape.top] at h; omega
    exact ⟨(C18.pci_get raw).trans (beGet2 raw h2).symm,
      fun v => by rw [C18.pci_set raw v h2]; simp [Shape.set, beBytes2]⟩
  · refine ⟨rfl, fun raw h => ?_⟩
    have h2 : 4 ≤ raw.length := by simp [Shape.top] at h; omega
    exact ⟨(C18.iana_get raw).trans (beGet4 raw h2).symm,
      fun v => by rw [C18.iana_set raw v h2]; simp [Shape.set, beBytes4]⟩

theorem get_model_ok (f : Field) (s : Shape) (hs : shapeOf f = some s) (file : SrcFile) (raw : Bytes) :
    judgeViewGet f file raw (f.getC file raw) = .ok := by
  obtain ⟨k1, k2⟩ := shape_sound hs
  unfold judgeViewGet
  simp only [hs]
  split
  · exact chk_beq (ViewsChecked.getC_panic f file raw (by omega))
  · rw [← (k2 raw (by omega)).1]
    exact chk_beq (ViewsChecked.getC_eq f file raw (by omega))

theorem set_model_ok (f : Field) (s : Shape) (hs : shapeOf f = some s) (file : SrcFile) (raw : Bytes) (v : Nat) :
    judgeViewSet f file raw v (f.setC file raw v) = .ok := by
  obtain ⟨k1, k2⟩ := shape_sound hs
  unfold judgeViewSet
  simp only [hs]
  split
  · exact chk_beq (ViewsChecked.setC_panic f file raw v (by omega))
  · rw [← (k2 raw (by omega)).2 v]
    exact chk_beq (ViewsChecked.setC_eq f file raw v (by omega))

/-- getter: the model's checked getter is judged ok whenever the field has a documented shape
(and `na`, never `fail`, otherwise) -/
theorem get_model (f : Field) (file : SrcFile) (raw : Bytes) :
    isFail (judgeViewGet f file raw (f.getC file raw)) = false := by
  cases hs : shapeOf f with
  | none => unfold judgeViewGet; rw [hs]; rfl
  | some s => rw [get_model_ok f s hs]; rfl

theorem set_model (f : Field) (file : SrcFile) (raw : Bytes) (v : Nat) :
    isFail (judgeViewSet f file raw v (f.setC file raw v)) = false := by
  cases hs : shapeOf f with
  | none => unfold judgeViewSet; rw [hs]; rfl
  | some s => rw [set_model_ok f s hs]; rfl

theorem tfb_model (raw : Bytes) (ver : B) : isFail (judgeTfb raw ver (transportFromBufOk raw ver)) = false :=
  isFail_ite rfl (isFail_chk_beq (C18.transport_from_buf raw ver))

theorem msgTable_isSome (y : B) : (C19.msgTable.lookup y).isSome =
    (y == 0x00#8 || y == 0x05#8 || y == 0x06#8 || y == 0x7E#8 || y == 0x7F#8) := by
  simp only [C19.msgTable, List.lookup]
  cases y == 0x00#8 <;> try rfl
  cases y == 0x05#8 <;> try rfl
  cases y == 0x06#8 <;> try rfl
  cases y == 0x7E#8 <;> try rfl
  cases y == 0x7F#8 <;> rfl

theorem bfb_model (raw : Bytes) : isFail (judgeBfb raw (bodyFromBufOk raw)) = false :=
  isFail_ite rfl (isFail_chk_beq ((C18.body_from_buf raw).trans (congrArg _ (msgTable_isSome _).symm)))

/-- the driver passes the command by its numeric value -/
theorem new_ctrl_model (rq d : Bool) (iid : B) (cmd : Cmd) :
    judgeNewCtrl rq d iid cmd.toByte (.ok (ctrlHeaderNew rq d iid cmd)) = .ok := by
  rw [Ctors.ctrl_new]
  cases rq <;> cases d <;> exact chk_beq rfl

theorem new_transport_model (v : B) : judgeNewTransport v (.ok (transportHeaderNew v)) = .ok :=
  chk_beq (congrArg Out.ok (Ctors.transport_new v))

theorem typeValue_eq (t : MsgType) : typeValue t = t.toByte := by
  cases t <;> decide +kernel

theorem new_body_model (ic : Bool) (t : MsgType) : judgeNewBody ic t (bodyHeaderNew ic t) = .ok := by
  unfold judgeNewBody
  cases ic
  · rw [if_neg Bool.false_ne_true, typeValue_eq]
    exact chk_beq (Ctors.body_new t)
  · rw [if_pos rfl]
    exact chk_beq (Ctors.body_new_ic t)

theorem new_routing_model (t sz first phys : B) :
    judgeNewRouting t sz first phys (.ok (routingEntryNew t sz first phys)) = .ok :=
  chk_beq (congrArg Out.ok (Ctors.routing_new t sz first phys))

theorem new_pci_model (v : Nat) : judgeNewBe 2 v (.ok (pciFormatNew (BitVec.ofNat 16 v))) = .ok := by
  refine chk_beq (congrArg Out.ok ?_)
  rw [pciFormatNew, BitVec.toNat_ofNat, Field.set_mod (by decide), C18.pci_set _ _ (by decide), beBytes2]
  rfl

theorem new_iana_model (v : Nat) : judgeNewBe 4 v (.ok (ianaFormatNew (BitVec.ofNat 32 v))) = .ok := by
  refine chk_beq (congrArg Out.ok ?_)
  rw [ianaFormatNew, BitVec.toNat_ofNat, Field.set_mod (by decide), C18.iana_set _ _ (by decide), beBytes4]
  rfl

theorem hdr_smbus_model (addr dst : B) : judgeHdrSmbus addr dst (.ok (smbusHeader addr dst)) = .ok :=
  chk_beq (congrArg Out.ok (smbusHeader_eq addr dst))

theorem hdr_transport_model (addr dst : B) : judgeHdrTransport addr dst (.ok (transportHeader addr dst)) = .ok :=
  chk_beq (congrArg Out.ok (transportHeader_eq addr dst))

theorem conv_table {α} (T : List (B × α)) (d : α) (ofB : B → α) (toB : α → B) (b : B)
    (ht : ofB b = (T.lookup b).getD d) (hv : ofB b ≠ d → toB (ofB b) = b) (hu : ∀ p ∈ T, p.2 ≠ d) :
    (toB (ofB b), ofB b) = match T.lookup b with | some c => (b, c) | none => (toB d, d) := by
  rw [ht] at hv ⊢
  cases h : T.lookup b with
  | none => rfl
  | some c => rw [h] at hv; exact congrArg (·, c) (hv (hu _ (C19.mem_of_lookup h)))

theorem conv_cmd_model : ∀ b : B, judgeConvCmd b (.ok ((Cmd.ofByte b).toByte, Cmd.ofByte b)) = .ok := by
  intro b
  unfold judgeConvCmd
  rw [conv_table C19.cmdTable .unknown Cmd.ofByte Cmd.toByte b (C19.cmd_table b) (C19.cmd_value b) (by decide)]
  cases C19.cmdTable.lookup b <;> exact chk_beq rfl

theorem conv_msg_model : ∀ b : B, judgeConvMsg b (.ok ((MsgType.ofByte b).toByte, MsgType.ofByte b)) = .ok := by
  intro b
  unfold judgeConvMsg
  rw [conv_table C19.msgTable .invalid MsgType.ofByte MsgType.toByte b (C19.msg_table b) (C19.msg_value b) (by decide)]
  cases C19.msgTable.lookup b <;> exact chk_beq rfl

/-- the driver's observation of `conv cc`: value and variant on success, the panic otherwise -/
def ccObs (b : B) : Out Unit (B × CC) :=
  match CC.ofByte b with
  | .ok c => .ok (c.toByte, c)
  | .err _ => .err ()
  | .panic p => .panic p

theorem conv_cc_model : ∀ b : B, isFail (judgeConvCc b (ccObs b)) = false := by
  intro b
  have hv := C19.cc_value b
  unfold judgeConvCc ccObs
  rw [C19.cc_lookup] at hv ⊢
  cases h : C19.ccTable.lookup b with
  | none => rfl
  | some c =>
    rw [h] at hv
    cases hv c rfl
    exact isFail_chk_beq rfl

end JudgeSoundView
end Mctp
