/-
C13 — the endpoint's EID is the last one assigned, and nothing else changes it.
-/
import Mctp.Props.AnyBuffer
namespace Mctp
namespace C13

/-- one operation moves both EID cells exactly as the abstract specification says -/
theorem step (c : Ctx) (op : Op) (h : Spec.opOk op = true) :
    ((stepOp c op).1.reqEid, (stepOp c op).1.respEid) = Spec.eidsStep (c.reqEid, c.respEid) op :=
  have _ := h   -- not needed: `AnyBuffer.step` is the statement without it
  AnyBuffer.step c op

/-- after any history on a fresh context, both halves hold what the specification says -/
theorem refine (a : B) (ts : Bytes) (vs : List VendorId) (ops : List Op)
    (h : ∀ op ∈ ops, Spec.opOk op = true) :
    let c := (runOps (Ctx.new a ts vs) ops).1
    (c.reqEid, c.respEid) = Spec.eids ops :=
  have _ := h   -- not needed either
  AnyBuffer.refine a ts vs ops

/-- nothing but an accepted Set/Force request or an accessor write changes either cell -/
theorem frame (c : Ctx) (op : Op) (hok : Spec.opOk op = true)
    (hp : ∀ p buf, op = .process p buf → Spec.assigns p = none)
    (h1 : ∀ e, op ≠ .setEidReq e) (h2 : ∀ e, op ≠ .setEidResp e) :
    (stepOp c op).1.reqEid = c.reqEid ∧ (stepOp c op).1.respEid = c.respEid := by
  have : Spec.eidsStep (c.reqEid, c.respEid) op = (c.reqEid, c.respEid) := by
    cases op with
    | process p buf =>
      show (match Spec.assigns p with | some e => (e, e) | none => (c.reqEid, c.respEid)) = _
      rw [hp p buf rfl]
    | setEidReq e => exact absurd rfl (h1 e)
    | setEidResp e => exact absurd rfl (h2 e)
    | _ => rfl
  exact Prod.mk.inj ((step c op hok).trans this)

/-- an accepted assignment is answered Success, status accepted, and the new EID -/
theorem assign_answer (c : Ctx) (p buf : Bytes) (e : B) (hb : 64 ≤ buf.length)
    (ha : Spec.assigns p = some e) :
    ∃ c' d buf', process c p buf = (c', .ok (d, some 16), buf') ∧
      c'.reqEid = e ∧ c'.respEid = e ∧
      Spec.sub buf' 9 15 = [0x00#8, 0x01#8, 0x00#8, 0x00#8, e, 0x00#8] := by
  rw [Proc.assigns_eq] at ha
  split at ha
  · rename_i h
    obtain ⟨hacc, hcmd, hop⟩ := h
    cases ha
    obtain ⟨buf', hp, -, hs⟩ :=
      Proc.process_answer (buf := buf) hacc hcmd (if_pos hop) RefineEnc.ref_setEid rfl (by simp; omega)
    exact ⟨_, _, _, hp, rfl, rfl, hs⟩
  · cases ha

/-- Set-Discovered-Flag is answered with the invalid-data completion code and changes nothing -/
theorem discovered_flag (c : Ctx) (p buf : Bytes) (hb : 64 ≤ buf.length)
    (ha : Spec.isAcceptedRequest p = true) (hcmd : Spec.cmdOf p = 0x01#8) (hop : byteAt p 11 = 0x03#8) :
    ∃ d buf', process c p buf = (c, .ok (d, some 16), buf') ∧
      Spec.sub buf' 9 15 = [0x00#8, 0x01#8, 0x02#8, 0x00#8, c.respEid, 0x00#8] := by
  obtain ⟨buf', hp, -, hs⟩ := Proc.process_answer (c' := c) (buf := buf) ha hcmd (by rw [hop]; rfl)
    RefineEnc.ref_setEid rfl (by simp; omega)
  exact ⟨_, _, hp, hs⟩

/-- Get Endpoint ID reports the response half's EID -/
theorem reported (c : Ctx) (p buf : Bytes) (hb : 64 ≤ buf.length)
    (ha : Spec.isAcceptedRequest p = true) (hcmd : Spec.cmdOf p = 0x02#8) :
    ∃ d buf', process c p buf = (c, .ok (d, some 16), buf') ∧
      Spec.sub buf' 9 15 = [0x00#8, 0x02#8, 0x00#8, c.respEid, 0x00#8, 0x00#8] := by
  obtain ⟨buf', hp, -, hs⟩ :=
    Proc.process_answer (c' := c) (buf := buf) ha hcmd rfl RefineEnc.ref_getEid rfl (by simp; omega)
  exact ⟨_, _, hp, hs⟩

end C13
end Mctp
