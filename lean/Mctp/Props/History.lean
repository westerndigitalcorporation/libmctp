/-
History-level corollaries: what a requester observes after ANY finite history of operations on a
responder context (C13 / C15 lifted from one step to whole histories), and the vendor-set walk carried
out with real packets (C14 end to end: the library's request encoder, the processor, the decoder).
-/
import Mctp.Props.C13
import Mctp.Props.C14
import Mctp.Props.C15
import Mctp.Props.Session
namespace Mctp
namespace History

/-- after any history on a fresh context, a Get Endpoint ID request is answered with the EID the
abstract specification says the response half holds -/
theorem get_eid_after (a : B) (ts : Bytes) (vs : List VendorId) (ops : List Op) (p buf : Bytes)
    (hops : ∀ op ∈ ops, Spec.opOk op = true) (hb : 64 ≤ buf.length)
    (ha : Spec.isAcceptedRequest p = true) (hcmd : Spec.cmdOf p = 0x02#8) :
    let c := (runOps (Ctx.new a ts vs) ops).1
    ∃ d buf', process c p buf = (c, .ok (d, some 16), buf') ∧
      Spec.sub buf' 9 15 = [0x00#8, 0x02#8, 0x00#8, (Spec.eids ops).2, 0x00#8, 0x00#8] := by
  intro c
  have h2 : c.respEid = (Spec.eids ops).2 := congrArg Prod.snd (C13.refine a ts vs ops hops)
  rw [← h2]
  exact C13.reported c p buf hb ha hcmd

/-- after any history, Get Endpoint UUID is answered with the UUID most recently installed
(all zero before any) -/
theorem uuid_after (a : B) (ts : Bytes) (vs : List VendorId) (ops : List Op) (p buf : Bytes)
    (hb : 64 ≤ buf.length) (ha : Spec.isAcceptedRequest p = true) (hcmd : Spec.cmdOf p = 0x03#8) :
    let c := (runOps (Ctx.new a ts vs) ops).1
    ∃ d buf', process c p buf = (c, .ok (d, some 29), buf') ∧
      Spec.sub buf' 9 28 = [0x00#8, 0x03#8, 0x00#8] ++ Spec.uuid ops := by
  intro c
  have hu : c.uuid = Spec.uuid ops := (C15.history a ts vs ops).2.2.2
  rw [← hu]
  exact C15.uuid c p buf hb (hu ▸ Proc.uuid_length ops) ha hcmd

/-- after any history, Get Message Type Support is answered with the configured list -/
theorem types_after (a : B) (ts : Bytes) (vs : List VendorId) (ops : List Op) (p buf : Bytes)
    (ht : ts.length ≤ 30) (hb : 64 ≤ buf.length)
    (ha : Spec.isAcceptedRequest p = true) (hcmd : Spec.cmdOf p = 0x05#8) :
    let c := (runOps (Ctx.new a ts vs) ops).1
    ∃ d buf', process c p buf = (c, .ok (d, some (14 + ts.length)), buf') ∧
      Spec.sub buf' 9 (13 + ts.length) = [0x00#8, 0x05#8, 0x00#8, BitVec.ofNat 8 ts.length] ++ ts := by
  intro c
  have hm : c.msgTypes = ts := (C15.history a ts vs ops).1
  rw [← hm]
  exact C15.types c p buf hb (hm ▸ ht) ha hcmd

/-- the requester's walk with real packets: encode a Get Vendor Defined Message Support request for
`sel`, let the responder process it, decode the response, take the next selector from its payload -/
def sessionWalk (c1 : Ctx) (dst : B) : Nat → Ctx → B → List Bytes
  | 0, _, _ => []
  | fuel + 1, c2, sel =>
    match encode c1 dst (.reqVendor sel) (List.replicate 32 0x00#8) with
    | .ok (b, n) =>
      match process c2 (b.take n) (List.replicate 64 0x00#8) with
      | (c2', .ok (_, some m), rb) =>
        match decode (rb.take m) with
        | .ok (_, off, len) =>
          match Spec.sub rb off (off + len) with
          | next :: set => set :: (if next = 0xFF#8 then [] else sessionWalk c1 dst fuel c2' next)
          | [] => []
        | _ => []
      | _ => []
    | _ => []

theorem encode_reqVendor_ok (c1 : Ctx) (dst sel : B) :
    ∃ b n, encode c1 dst (.reqVendor sel) (List.replicate 32 0x00#8) = .ok (b, n) :=
  ⟨_, _, RefineEnc.encode_eq_ref c1 dst _ _ (frame c1.address dst [0x00#8, 0x80#8, 0x06#8, sel]) rfl
    (by rw [frame_length]; simp)⟩

theorem walk_step (c1 c2 : Ctx) (dst sel : B) {v : VendorId} (fuel : Nat)
    (hc : Spec.configOk c2 = true) (hv : c2.vendorIds[sel.toNat]? = some v) :
    ∃ c2', Spec.configOk c2' = true ∧ c2'.vendorIds = c2.vendorIds ∧
      sessionWalk c1 dst (fuel + 1) c2 sel =
        Spec.encodeSet v ::
          (if Spec.nextSelector sel.toNat c2.vendorIds.length = 0xFF#8 then []
           else sessionWalk c1 dst fuel c2' (Spec.nextSelector sel.toNat c2.vendorIds.length)) := by
  obtain ⟨b, n, henc⟩ := encode_reqVendor_ok c1 dst sel
  obtain ⟨c2', d, rb, m, hproc, hm, hdec, hsub⟩ :=
    Session.vendor c1 c2 dst sel v _ b (List.replicate 64 0x00#8) n hc hv henc (by simp)
  have hst : c2' = (stepOp c2 (.process (b.take n) (List.replicate 64 0x00#8))).1 := by
    rw [Proc.stepOp_process, hproc]
  refine ⟨c2', ?_, ?_, ?_⟩
  · rw [hst]; exact Proc.configOk_stepOp c2 _ hc
  · rw [hst]; exact (Proc.stepOp_fields c2 _).2.1
  · have e : 12 + (1 + (Spec.encodeSet v).length) = m - 1 := by omega
    rw [← e] at hsub
    conv => lhs; unfold sessionWalk
    simp only [henc, hproc, hdec, hsub]

/-- the walk with real packets is the specification-level walk of C14 over the responder's vendor sets -/
theorem walk_eq (c1 : Ctx) (dst : B) (vs : List VendorId) :
    ∀ (fuel : Nat) (c2 : Ctx) (sel : B), Spec.configOk c2 = true → c2.vendorIds = vs → sel.toNat < vs.length →
      sessionWalk c1 dst fuel c2 sel = C14.walk vs fuel sel.toNat := by
  intro fuel
  induction fuel with
  | zero => intro c2 sel _ _ _; rfl
  | succ fuel ih =>
    intro c2 sel hc hvs h1
    have h255 : vs.length ≤ 255 := by
      rw [← hvs]; exact ((Proc.configOk_iff c2).mp hc).2.2.2.1
    have hv : c2.vendorIds[sel.toNat]? = some vs[sel.toNat] := by
      rw [hvs]; exact List.getElem?_eq_getElem h1
    obtain ⟨c2', hc', hvs', hw⟩ := walk_step c1 c2 dst sel fuel hc hv
    rw [hw, hvs, C14.walk, List.getElem?_eq_getElem h1]
    refine congrArg (Spec.encodeSet vs[sel.toNat] :: ·) ?_
    by_cases hn : sel.toNat + 1 = vs.length
    · have : Spec.nextSelector sel.toNat vs.length = 0xFF#8 := if_pos hn
      rw [if_pos this, if_pos this]
    · obtain ⟨hne, htn⟩ := C14.nextSelector_succ (i := sel.toNat) (by omega) h255
      rw [if_neg hne, if_neg hne]
      exact ih c2' _ hc' (hvs'.trans hvs) (by rw [htn]; omega)

/-- starting at selector 0 and following the decoded next selectors, the requester sees every
configured vendor set exactly once, in configuration order, and then stops -/
theorem session_walk_complete (c1 c2 : Ctx) (dst : B) (hc : Spec.configOk c2 = true) :
    sessionWalk c1 dst 256 c2 0x00#8 = c2.vendorIds.map Spec.encodeSet := by
  obtain ⟨-, -, h1, h255, -⟩ := (Proc.configOk_iff c2).mp hc
  rw [walk_eq c1 dst c2.vendorIds 256 c2 0x00#8 hc rfl (by simp; omega)]
  exact C14.walk_complete c2.vendorIds h1 h255

end History
end Mctp
