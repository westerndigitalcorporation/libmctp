/-
C05 — MCTP transport header and message-type byte of encoded packets.
-/
import Mctp.Props.RefineEnc
namespace Mctp
namespace C05

theorem transport (c : Ctx) (dst : B) (e : Enc) (buf buf' : Bytes) (n : Nat)
    (h : encode c dst e buf = .ok (buf', n)) :
    Spec.transportOk c.address dst e (buf'.take n) = true := by
  unfold Spec.transportOk
  rw [RefineEnc.encode_ok_take h, frame_length]
  cases hty : Spec.typeByte e with
  | none => simp [frame_cons, byteAt]
  | some tb =>
    obtain ⟨rest, hm⟩ := RefineEnc.libMessage_type (r := c.respEid) hty
    simp [hm, frame_cons, byteAt]

/-- also for API misuse of the SPDM writer: the type byte is the 7-bit type, IC clear -/
theorem type_byte_general (c : Ctx) (dst : B) (t : MsgType) (hd : Option Bytes) (d buf buf' : Bytes) (n : Nat)
    (h : encode c dst (.genSpdm t hd d) buf = .ok (buf', n)) :
    byteAt (buf'.take n) 8 = t.toByte &&& 0x7F#8 := by
  rw [RefineEnc.encode_ok_take h]
  rfl

end C05
end Mctp
