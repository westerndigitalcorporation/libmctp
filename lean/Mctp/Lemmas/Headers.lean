/-
Closed forms of the header getters the receive path uses and of the headers the transmit path
builds, as corollaries of C18: every getter is one `C18.get_layout` and a fact about one byte, every
header is one `C18.set_layout` per setter call on the literal zero buffer (`simp only` works inside
out, so each buffer is a literal list when its setter is rewritten) and then constant folding.
The headers that are calls of a public constructor are read off `Props/Ctors`.
-/
import Mctp.Props.Ctors
namespace Mctp

theorem msgType_get (buf : Bytes) : BodyHdr.msgType.get buf = (byteAt buf 0 &&& 0x7F#8).toNat := by
  rw [C18.get_layout BodyHdr.msgType ⟨0, 0, 7⟩ (by decide +kernel)]
  exact toNat_low _ 7

theorem ctrl_rq_get (buf : Bytes) : CtrlHdr.rq.get buf = if (byteAt buf 0).msb then 1 else 0 := by
  rw [C18.get_layout CtrlHdr.rq ⟨0, 7, 1⟩ (by decide +kernel)]
  exact toNat_top _

theorem whole_byte_get {f : Field} (k : Nat) (h : (f, ⟨k, 0, 8⟩) ∈ C18.table) (buf : Bytes) :
    f.get buf = (byteAt buf k).toNat := by
  rw [C18.get_layout f _ h]
  exact toNat_whole _

theorem ctrl_cmd_get (buf : Bytes) : BitVec.ofNat 8 (CtrlHdr.commandCode.get buf) = byteAt buf 1 := by
  rw [whole_byte_get 1 (by decide +kernel), BitVec.ofNat_toNat, BitVec.setWidth_eq]

theorem srcEid_get (buf : Bytes) : BitVec.ofNat 8 (TransportHdr.sourceEndpointId.get buf) = byteAt buf 2 := by
  rw [whole_byte_get 2 (by decide +kernel), BitVec.ofNat_toNat, BitVec.setWidth_eq]

theorem smbus_cmd_get (buf : Bytes) : SMBusHdr.commandCode.get buf = (byteAt buf 1).toNat :=
  whole_byte_get 1 (by decide +kernel) buf

theorem smbus_count_get (buf : Bytes) : SMBusHdr.byteCount.get buf = (byteAt buf 2).toNat :=
  whole_byte_get 2 (by decide +kernel) buf

theorem smbusHeader_eq (a d : B) :
    smbusHeader a d = [(d &&& 0x7F#8) <<< 1, 0x0F#8, 0#8, ((a &&& 0x7F#8) <<< 1) ||| 1#8] := by
  simp only [smbusHeader, C18.set_layout SMBusHdr.destReadWrite ⟨0, 0, 1⟩ (by decide +kernel),
    C18.set_layout SMBusHdr.destSlaveAddr ⟨0, 1, 7⟩ (by decide +kernel),
    C18.set_layout SMBusHdr.commandCode ⟨1, 0, 8⟩ (by decide +kernel),
    C18.set_layout SMBusHdr.sourceSlaveAddr ⟨3, 1, 7⟩ (by decide +kernel),
    C18.set_layout SMBusHdr.sourceReadWrite ⟨3, 0, 1⟩ (by decide +kernel),
    List.length_cons, List.length_nil, Nat.reduceAdd, Nat.reduceLT, List.set, byteAt, List.getD_cons_zero,
    List.getD_cons_succ, ofNat_toNat_mod]
  -- byte 3: writing the read/write bit keeps the address bits 7..1
  have b3 : ∀ x : B, (x &&& 127#8) <<< 1 &&& 254#8 ||| 1#8 = (x &&& 127#8) <<< 1 ||| 1#8 := by
    apply forall_byte; decide +kernel
  simp [C18.Layout.mask, b3]

theorem smbusHeaderFinal_eq (a d : B) (total : Nat) :
    smbusHeaderFinal a d total =
      [(d &&& 0x7F#8) <<< 1, 0x0F#8, BitVec.ofNat 8 (total - 4), ((a &&& 0x7F#8) <<< 1) ||| 1#8] := by
  simp only [smbusHeaderFinal, smbusHeader_eq, C18.set_layout SMBusHdr.byteCount ⟨2, 0, 8⟩ (by decide +kernel),
    List.length_cons, List.length_nil, Nat.reduceAdd, Nat.reduceLT, List.set, byteAt, List.getD_cons_zero,
    List.getD_cons_succ]
  simp [C18.Layout.mask, ofNat8_congr (Nat.mod_mod (total - 4) 256)]

theorem transportHeader_eq (a d : B) : transportHeader a d = [0x01#8, d, a, 0xC8#8] := by
  simp only [transportHeader, C18.set_layout TransportHdr.hdrVersion ⟨0, 0, 4⟩ (by decide +kernel),
    C18.set_layout TransportHdr.destEndpointId ⟨1, 0, 8⟩ (by decide +kernel),
    C18.set_layout TransportHdr.sourceEndpointId ⟨2, 0, 8⟩ (by decide +kernel),
    C18.set_layout TransportHdr.som ⟨3, 7, 1⟩ (by decide +kernel),
    C18.set_layout TransportHdr.eom ⟨3, 6, 1⟩ (by decide +kernel),
    C18.set_layout TransportHdr.pktSeq ⟨3, 4, 2⟩ (by decide +kernel),
    C18.set_layout TransportHdr.to ⟨3, 3, 1⟩ (by decide +kernel),
    C18.set_layout TransportHdr.msgTag ⟨3, 0, 3⟩ (by decide +kernel),
    List.length_cons, List.length_nil, Nat.reduceAdd, Nat.reduceLT, List.set, byteAt, List.getD_cons_zero,
    List.getD_cons_succ, ofNat_toNat_mod]
  simp [C18.Layout.mask, and_255]

theorem bodyHeader_eq (t : MsgType) : bodyHeader t = [t.toByte &&& 0x7F#8] :=
  Out.ok.inj (Ctors.body_new t)

theorem ctrlHeader_eq (rq : Bool) (cmd : Cmd) :
    ctrlHeader rq cmd = [if rq then 0x80#8 else 0x00#8, cmd.toByte] := by
  rw [← Ctors.ctrl_new_lib, Ctors.ctrl_new]
  cases rq <;> rfl

/- not `Ctors.pci_new`: the model's `as u16` is `% 65536`, which the setter's own `% 2 ^ valBits` absorbs -/
theorem pciHeader_eq (data : BitVec 32) :
    pciHeader data = [(data >>> 8).setWidth 8, data.setWidth 8] := by
  rw [pciHeader, show (65536 : Nat) = 2 ^ 16 from rfl, Field.set_mod (by decide), C18.pci_set _ _ (by decide),
    setWidth_ushiftRight]
  rfl

theorem ianaHeader_eq (data : BitVec 32) :
    ianaHeader data =
      [(data >>> 24).setWidth 8, (data >>> 16).setWidth 8, (data >>> 8).setWidth 8, data.setWidth 8] :=
  Ctors.iana_new data

end Mctp
