/-
Helper lemmas for C02: an error pattern confined to eight consecutive wire bits (`Spec.isBurst8`)
has a non-zero CRC-8.
-/
import Mctp.Lemmas.Crc
namespace Mctp

theorem mem_setBits (e : Bytes) (i : Nat) :
    i ∈ Spec.setBits e ↔ i < 8 * e.length ∧ (e.getD (i / 8) 0).getLsbD (7 - i % 8) = true := by
  simp only [Spec.setBits, List.mem_filter, List.mem_range]

theorem isBurst8_iff (e : Bytes) :
    Spec.isBurst8 e = true ↔ (∃ i, i ∈ Spec.setBits e) ∧
      ∀ i ∈ Spec.setBits e, ∀ j ∈ Spec.setBits e, i < j + 8 ∧ j < i + 8 := by
  unfold Spec.isBurst8
  simp only [Bool.and_eq_true, Bool.not_eq_true', List.all_eq_true, decide_eq_true_eq,
    List.isEmpty_eq_false_iff_exists_mem]

theorem byte_ne_zero_bit : ∀ y : B, y ≠ 0#8 → ∃ b, b < 8 ∧ y.getLsbD b = true := by
  intro y hy
  apply Classical.byContradiction
  intro hn
  apply hy
  apply BitVec.eq_of_getLsbD_eq
  intro i hi
  cases hb : y.getLsbD i
  · exact BitVec.getLsbD_zero.symm
  · exact absurd ⟨i, hi, hb⟩ hn

/-- the finite core of the burst theorem: `[hi, step8 hi]`, the two-byte pattern with CRC zero, has a set
bit in its second byte that is eight or more wire positions after the first set bit of `hi`.
`2 ^ b' ≤ hi.toNat` says "`hi` has a set bit `t ≥ b'`" without a quantifier (the table stays decidable by
evaluation); on the wire these are positions `7 - t` and `15 - b'`, at least 8 apart. -/
theorem step8_low_bit : ∀ hi : B, hi ≠ 0#8 →
    ∃ b', b' < 8 ∧ (step8 hi).getLsbD b' = true ∧ 2 ^ b' ≤ hi.toNat := by
  apply forall_byte; decide +kernel

/-- bit `b` of byte `k` is wire position `8 * k + (7 - b)` -/
theorem mem_setBits_bit (e : Bytes) (k b : Nat) (hk : k < e.length) (hb : b < 8)
    (h : (e.getD k 0).getLsbD b = true) : 8 * k + (7 - b) ∈ Spec.setBits e := by
  rw [mem_setBits]
  have h1 : (8 * k + (7 - b)) / 8 = k := by omega
  have h2 : 7 - (8 * k + (7 - b)) % 8 = b := by omega
  rw [h1, h2]
  exact ⟨by omega, h⟩

/-- in a burst any two set bits are less than eight wire positions apart -/
theorem burst_near (e : Bytes) (h : Spec.isBurst8 e = true) (k b k' b' : Nat)
    (hk : k < e.length) (hb : b < 8) (h1 : (e.getD k 0).getLsbD b = true)
    (hk' : k' < e.length) (hb' : b' < 8) (h2 : (e.getD k' 0).getLsbD b' = true) :
    8 * k' + (7 - b') < 8 * k + (7 - b) + 8 :=
  (((isBurst8_iff e).mp h).2 _ (mem_setBits_bit e k' b' hk' hb' h2) _ (mem_setBits_bit e k b hk hb h1)).1

theorem mem_setBits_cons (x : B) (xs : Bytes) (i : Nat) :
    i + 8 ∈ Spec.setBits (x :: xs) ↔ i ∈ Spec.setBits xs := by
  rw [mem_setBits, mem_setBits]
  have h1 : (i + 8) / 8 = i / 8 + 1 := by omega
  have h2 : (i + 8) % 8 = i % 8 := by omega
  rw [h1, h2, List.getD_cons_succ, List.length_cons]
  exact and_congr_left' (by omega)

theorem setBits_zero_head (xs : Bytes) (i : Nat) (h : i ∈ Spec.setBits (0#8 :: xs)) : 8 ≤ i := by
  rw [mem_setBits] at h
  apply Classical.byContradiction; intro hlt
  have h1 : i / 8 = 0 := by omega
  rw [h1] at h
  simp at h

theorem isBurst8_zero_cons (xs : Bytes) (h : Spec.isBurst8 (0#8 :: xs) = true) : Spec.isBurst8 xs = true := by
  rw [isBurst8_iff] at h ⊢
  obtain ⟨⟨i, hi⟩, hall⟩ := h
  constructor
  · have h8 := setBits_zero_head xs i hi
    refine ⟨i - 8, ?_⟩
    rw [← mem_setBits_cons 0#8 xs, Nat.sub_add_cancel h8]; exact hi
  · intro a ha b hb
    have := hall (a + 8) ((mem_setBits_cons _ _ _).mpr ha) (b + 8) ((mem_setBits_cons _ _ _).mpr hb)
    omega

/-- a burst that starts in byte `x` ends in the next byte, and not on `step8 x` -/
theorem burst_head_inv (x lo : B) (zs : Bytes) (hx : x ≠ 0#8)
    (h : Spec.isBurst8 (x :: lo :: zs) = true) : (∀ z ∈ zs, z = 0#8) ∧ lo ≠ step8 x := by
  obtain ⟨b, hb, hbit⟩ := byte_ne_zero_bit x hx
  constructor
  · intro z hz
    obtain ⟨k, hk, hzk⟩ := List.getElem_of_mem hz
    apply Classical.byContradiction
    intro hz0
    obtain ⟨i, hi, hz⟩ := byte_ne_zero_bit z hz0
    have hget : (x :: lo :: zs).getD (k + 2) 0 = z := by
      rw [List.getD_cons_succ, List.getD_cons_succ, List.getD_eq_getElem?_getD, List.getElem?_eq_getElem hk, hzk,
        Option.getD_some]
    have := burst_near _ h 0 b (k + 2) i (by simp) hb hbit (by simpa using hk) hi (by rw [hget]; exact hz)
    omega
  · rintro rfl
    obtain ⟨b', hb', hs, hle⟩ := step8_low_bit x hx
    obtain ⟨t, hge, ht⟩ := Nat.exists_ge_and_testBit_of_ge_two_pow hle
    have := burst_near _ h 0 t 1 b' (by simp) (BitVec.lt_of_getLsbD ht) ht (by simp) hb' hs
    omega

theorem isBurst8_singleton_ne_zero (x : B) (h : Spec.isBurst8 [x] = true) : x ≠ 0#8 := by
  rintro rfl; revert h; decide

theorem crc8_burst_ne_zero (e : Bytes) : Spec.isBurst8 e = true → crc8 e ≠ 0#8 := by
  induction e with
  | nil => decide
  | cons x xs ih =>
    intro h
    by_cases hx : x = 0#8
    · subst hx
      -- a leading zero byte does not move the register: `crc8 (0 :: xs)` is `crc8 xs` by evaluation
      exact ih (isBurst8_zero_cons xs h)
    · cases xs with
      | nil => exact fun h0 => hx (step8_eq_zero _ (byteStep_zero_left x ▸ h0))
      | cons lo zs =>
        obtain ⟨hz, hlo⟩ := burst_head_inv x lo zs hx h
        have hzs : zs = List.replicate zs.length 0#8 := List.eq_replicate_iff.mpr ⟨rfl, hz⟩
        unfold crc8
        rw [crcFrom_cons, crcFrom_cons, hzs, byteStep_zero_left]
        apply crcFrom_zeros_ne
        intro h0
        exact hlo (BitVec.xor_eq_zero_iff.mp (step8_eq_zero _ h0)).symm

end Mctp
