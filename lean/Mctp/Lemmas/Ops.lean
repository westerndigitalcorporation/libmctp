/-
Histories of operations: a projection of the context that each operation moves by a step function follows the
fold of that function (`runOps_fold`), what each operation preserves holds after any history (`runOps_inv`);
no operation changes the configuration (`stepOp_fields`, `runOps_fields`), and a valid configuration stays valid.
-/
import Mctp.Lemmas.Process
namespace Mctp
namespace Proc
open Spec

theorem stepOp_process (c : Ctx) (p buf : Bytes) :
    stepOp c (.process p buf) = ((process c p buf).1, .processed (process c p buf).2.1 (process c p buf).2.2) := rfl

theorem runOps_cons (c : Ctx) (op : Op) (ops : List Op) :
    runOps c (op :: ops) = ((runOps (stepOp c op).1 ops).1, (stepOp c op).2 :: (runOps (stepOp c op).1 ops).2) := rfl

theorem runOps_fold {σ : Type} (f : Ctx → σ) (g : σ → Op → σ) (h : ∀ c op, f (stepOp c op).1 = g (f c) op) :
    ∀ (ops : List Op) (c : Ctx), f (runOps c ops).1 = ops.foldl g (f c)
  | [], _ => rfl
  | op :: ops, c => by rw [runOps_cons, List.foldl_cons, ← h c op]; exact runOps_fold f g h ops _

theorem runOps_inv (P : Ctx → Prop) (h : ∀ c op, P c → P (stepOp c op).1) :
    ∀ (ops : List Op) (c : Ctx), P c → P (runOps c ops).1
  | [], _, hc => hc
  | op :: ops, c, hc => by rw [runOps_cons]; exact runOps_inv P h ops _ (h c op hc)

theorem stepOp_fields (c : Ctx) (op : Op) :
    (stepOp c op).1.msgTypes = c.msgTypes ∧ (stepOp c op).1.vendorIds = c.vendorIds ∧
    (stepOp c op).1.address = c.address ∧ (stepOp c op).1.uuid = uuidStep c.uuid op := by
  cases op with
  | process p buf =>
    obtain ⟨s, h⟩ := process_fst c p buf
    rw [stepOp_process, h]
    cases assigns p <;> exact ⟨rfl, rfl, rfl, rfl⟩
  | setUuid u =>
    simp only [stepOp, uuidStep]
    split <;> exact ⟨rfl, rfl, rfl, rfl⟩
  | _ => exact ⟨rfl, rfl, rfl, rfl⟩

theorem runOps_fields (c : Ctx) (ops : List Op) :
    (runOps c ops).1.msgTypes = c.msgTypes ∧ (runOps c ops).1.vendorIds = c.vendorIds ∧
    (runOps c ops).1.address = c.address ∧ (runOps c ops).1.uuid = ops.foldl uuidStep c.uuid := by
  obtain ⟨h1, h2, h3⟩ :=
    runOps_inv (fun c' => c'.msgTypes = c.msgTypes ∧ c'.vendorIds = c.vendorIds ∧ c'.address = c.address)
      (fun c' op ⟨h1, h2, h3⟩ =>
        have ⟨i1, i2, i3, _⟩ := stepOp_fields c' op
        ⟨i1.trans h1, i2.trans h2, i3.trans h3⟩) ops c ⟨rfl, rfl, rfl⟩
  exact ⟨h1, h2, h3, runOps_fold (·.uuid) uuidStep (fun c op => (stepOp_fields c op).2.2.2) ops c⟩

theorem uuidStep_length {u : Bytes} (h : u.length = 16) (op : Op) : (uuidStep u op).length = 16 := by
  cases op with
  | setUuid v =>
    simp only [uuidStep]
    split <;> assumption
  | _ => exact h

theorem uuid_length (ops : List Op) : (uuid ops).length = 16 :=
  List.foldlRecOn ops uuidStep (motive := fun u => u.length = 16) (by simp) fun _ hu op _ => uuidStep_length hu op

theorem configOk_stepOp (c : Ctx) (op : Op) (hc : configOk c = true) :
    configOk (stepOp c op).1 = true := by
  obtain ⟨h1, h2, -, h4⟩ := stepOp_fields c op
  obtain ⟨a1, a2, a3, a4, a5⟩ := (configOk_iff c).mp hc
  rw [configOk_iff, h1, h2, h4]
  exact ⟨a1, a2, a3, a4, uuidStep_length a5 op⟩

end Proc
end Mctp
