/-
Helper lemmas: GF(2)-linear algebra of the byte-wise CRC-8 (Model/Crc8.lean), its equality with the
bit-serial specification (Spec/Crc.lean), and the PEC test in terms of it.
-/
import Mctp.Model.Crc8
import Mctp.Spec.Crc
namespace Mctp

theorem xor_xor_xor_comm (a b c d : B) : (a ^^^ b) ^^^ (c ^^^ d) = (a ^^^ c) ^^^ (b ^^^ d) := by
  ac_rfl

theorem step_eq (c : B) : step c = c <<< 1 ^^^ (if c.msb then 7#8 else 0#8) := by
  unfold step
  cases c.msb
  · exact BitVec.xor_zero.symm
  · rfl

theorem step_lin (a b : B) : step (a ^^^ b) = step a ^^^ step b := by
  rw [step_eq, step_eq a, step_eq b, BitVec.msb_xor, BitVec.shiftLeft_xor_distrib, xor_xor_xor_comm]
  cases a.msb <;> cases b.msb <;> rfl

theorem step8_lin (a b : B) : step8 (a ^^^ b) = step8 a ^^^ step8 b := by
  simp [step8, step_lin]

theorem step_zero : step 0 = 0 := by decide
@[simp] theorem step8_zero : step8 0#8 = 0#8 := by decide

/-- a step loses nothing: the bit shifted out is bit 0 of what comes back -/
theorem step_eq_zero (c : B) (h : step c = 0#8) : c = 0#8 := by
  have hs : (c <<< 1).toNat = c.toNat * 2 % 256 := by rw [BitVec.toNat_shiftLeft, Nat.shiftLeft_eq]
  unfold step at h
  apply BitVec.eq_of_toNat_eq
  rw [BitVec.toNat_ofNat]
  by_cases hm : c.msb
  · -- `c <<< 1 = 7` cannot be: the left side is even
    rw [if_pos hm] at h
    have h7 := congrArg BitVec.toNat (BitVec.xor_eq_zero_iff.mp h)
    rw [hs, BitVec.toNat_ofNat] at h7
    omega
  · rw [if_neg hm] at h
    have h0 := congrArg BitVec.toNat h
    rw [BitVec.msb_eq_decide, decide_eq_true_eq] at hm
    rw [hs, BitVec.toNat_ofNat] at h0
    omega

theorem step8_eq_zero : ∀ c : B, step8 c = 0 → c = 0 := by
  intro c h
  iterate 8 apply step_eq_zero
  exact h

theorem step8_inj (a b : B) (h : step8 a = step8 b) : a = b := by
  have : step8 (a ^^^ b) = 0 := by rw [step8_lin, h, BitVec.xor_self]; rfl
  exact BitVec.xor_eq_zero_iff.mp (step8_eq_zero _ this)

theorem crcFrom_nil (c : B) : crcFrom c [] = c := rfl
theorem crcFrom_cons (c b : B) (xs : Bytes) : crcFrom c (b :: xs) = crcFrom (byteStep c b) xs := rfl

theorem crcFrom_append (c : B) (xs ys : Bytes) : crcFrom c (xs ++ ys) = crcFrom (crcFrom c xs) ys := by
  simp [crcFrom, List.foldl_append]

theorem crc8_concat (xs : Bytes) (b : B) : crc8 (xs ++ [b]) = step8 (crc8 xs ^^^ b) := by
  rw [crc8, crcFrom_append]
  rfl

theorem crc_append_self (xs : Bytes) : crc8 (xs ++ [crc8 xs]) = 0 := by
  rw [crc8_concat, BitVec.xor_self]
  exact step8_zero

theorem crc_append_zero_iff (xs : Bytes) (b : B) : crc8 (xs ++ [b]) = 0 ↔ b = crc8 xs := by
  constructor
  · intro h
    rw [crc8_concat] at h
    exact (BitVec.xor_eq_zero_iff.mp (step8_eq_zero _ h)).symm
  · rintro rfl
    exact crc_append_self xs

theorem byteStep_zero_left (x : B) : byteStep 0 x = step8 x := by simp [byteStep]

theorem length_xorBytes : ∀ (xs ys : Bytes), xs.length = ys.length → (Spec.xorBytes xs ys).length = xs.length
  | [], [], _ => rfl
  | a :: as, b :: bs, h => by
    simp only [Spec.xorBytes, List.length_cons]
    rw [length_xorBytes as bs (by simpa using h)]

theorem crcFrom_xor (c d : B) : ∀ (xs ys : Bytes), xs.length = ys.length →
    crcFrom (c ^^^ d) (Spec.xorBytes xs ys) = crcFrom c xs ^^^ crcFrom d ys
  | [], [], _ => by simp [crcFrom, Spec.xorBytes]
  | a :: as, b :: bs, h => by
    simp only [Spec.xorBytes, crcFrom, List.foldl_cons, byteStep]
    rw [xor_xor_xor_comm, step8_lin]
    exact crcFrom_xor _ _ as bs (by simpa using h)

theorem crcFrom_zeros (n : Nat) : crcFrom 0 (List.replicate n 0) = 0 := by
  induction n with
  | zero => rfl
  | succ n ih => simp [List.replicate_succ, crcFrom, byteStep, step8_zero] at *; exact ih

theorem crcFrom_zeros_ne (n : Nat) (c : B) (hc : c ≠ 0) : crcFrom c (List.replicate n 0) ≠ 0 := by
  induction n generalizing c with
  | zero => simpa [crcFrom]
  | succ n ih =>
    simp only [List.replicate_succ, crcFrom, List.foldl_cons, byteStep]
    apply ih
    intro h; exact hc (step8_eq_zero _ (by simpa using h))

theorem lfsr_eq (r : B) (bit : Bool) : Spec.lfsr r bit = r <<< 1 ^^^ (if r.msb != bit then 7#8 else 0#8) := by
  unfold Spec.lfsr
  cases (r.msb != bit)
  · exact BitVec.xor_zero.symm
  · rfl

/-- one clock of the register on the top bit of `x` is a step of `r ^^^ x`, up to the bits of `x` still to come -/
theorem step_xor (r x : B) : step (r ^^^ x) = Spec.lfsr r x.msb ^^^ (x <<< 1) := by
  rw [step_eq, lfsr_eq, BitVec.msb_xor, BitVec.shiftLeft_xor_distrib, BitVec.xor_assoc, BitVec.xor_assoc,
    BitVec.xor_comm (x <<< 1)]

/-- eight clocks consume the byte: its bits have been fed in order and `b <<< 8 = 0` is left -/
theorem bitsOf_fold (c b : B) : (Spec.bitsOf b).foldl Spec.lfsr c = step8 (c ^^^ b) := by
  simp only [step8, step_xor, ← BitVec.shiftLeft_add, Nat.reduceAdd, BitVec.shiftLeft_eq_zero (Nat.le_refl 8),
    BitVec.xor_zero, BitVec.msb_eq_getLsbD_last, BitVec.getLsbD_shiftLeft]
  simp only [Nat.reduceSub, Nat.reduceLT, decide_true, decide_false, Bool.not_false, Bool.true_and]
  rfl

theorem crcFrom_eq_spec (xs : Bytes) : ∀ c : B, crcFrom c xs = (xs.flatMap Spec.bitsOf).foldl Spec.lfsr c := by
  induction xs with
  | nil => intro c; rfl
  | cons x xs ih =>
    intro c
    rw [List.flatMap_cons, List.foldl_append, bitsOf_fold, crcFrom_cons, ih]; rfl

theorem crc8_eq_spec (xs : Bytes) : crc8 xs = Spec.crc xs := crcFrom_eq_spec xs 0

theorem pecOk_concat (xs : Bytes) (b : B) : Spec.pecOk (xs ++ [b]) = (b == Spec.crc xs) := by
  simp [Spec.pecOk]

theorem pecOk_iff_crc (q : Bytes) : Spec.pecOk q = true ↔ q ≠ [] ∧ crc8 q = 0#8 := by
  rcases List.eq_nil_or_concat q with rfl | ⟨xs, b, rfl⟩
  · simp [Spec.pecOk]
  · rw [List.concat_eq_append, pecOk_concat, ← crc8_eq_spec]
    have h := crc_append_zero_iff xs b
    constructor
    · intro hb; exact ⟨by simp, h.mpr (by simpa using hb)⟩
    · rintro ⟨_, h0⟩; simpa using h.mp h0

theorem crc8_xorBytes (xs ys : Bytes) (h : xs.length = ys.length) :
    crc8 (Spec.xorBytes xs ys) = crc8 xs ^^^ crc8 ys := by
  simpa [crc8] using crcFrom_xor 0 0 xs ys h

end Mctp
