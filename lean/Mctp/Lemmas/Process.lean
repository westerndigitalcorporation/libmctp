/-
The request processor in normal form.  `process` is the decoder followed, for an accepted control
request, by one arm of the command dispatch (`Proc.arm`: the context the arm leaves and the response
encoder it calls, or the panic it raises first) and by that encoder writing into the response buffer
(`respond_cases`: the reference packet over the front of the buffer, or a panic that leaves it alone).
In that order: the decoder on an accepted request, the arms (by command byte, then against the specification
under a valid configuration), `process`.
-/
import Mctp.Model.Process
import Mctp.Lemmas.Decode
import Mctp.Props.RefineEnc
import Mctp.Spec.Judge
namespace Mctp
namespace Proc
open Spec

/-- the control header `process_packet` reads a second time agrees with what the decoder saw -/
theorem getCtrl_ok_fields {p : Bytes} {pec : B} {ctl : Ctrl} (h10 : 10 ≤ p.length)
    (h : getCtrl (p.drop 9) pec = .ok ctl) :
    ctl.cmd = cmdOf p ∧ ctl.isReq = isRequest p ∧ (isRequest p = true → ctl.off = 2) := by
  rw [getCtrl_drop9 p pec h10] at h
  by_cases h12 : p.length < 12
  · rw [if_pos h12] at h; cases h
  rw [if_neg h12] at h
  cases hr : isRequest p <;> rw [hr] at h
  · rw [if_neg Bool.false_ne_true] at h
    by_cases h13 : p.length < 13
    · rw [if_pos h13] at h; cases h
    by_cases hcc : ccByte p ≠ 0x00#8
    · rw [if_neg h13, if_pos hcc] at h
      obtain ⟨x, -, hf⟩ := Out.bind_eq_ok.mp h; cases hf
    rw [if_neg h13, if_neg hcc] at h
    obtain ⟨n, -, hf⟩ := Out.bind_eq_ok.mp h
    exact ⟨(ctrlFin_ok hf).1, (ctrlFin_ok hf).2.1, fun h => nomatch h⟩
  · rw [if_pos rfl] at h
    obtain ⟨n, -, hf⟩ := Out.bind_eq_ok.mp h
    exact ⟨(ctrlFin_ok hf).1, (ctrlFin_ok hf).2.1, fun _ => (ctrlFin_ok hf).2.2⟩

/-- `process_packet` is `decode_packet` followed, for a control request, by `dispatch` on the command
byte, the source EID and the payload -/
theorem process_eq_decode (c : Ctx) (p buf : Bytes) :
    process c p buf =
      match decode p with
      | .err e => (c, .err e, buf)
      | .panic k => (c, .panic k, buf)
      | .ok d =>
        if (isControl p && isRequest p) = true then
          let r := dispatch c (byteAt p 10) (byteAt p 6) (fun i => byteAt p (11 + i)) buf
          (r.1, r.2.1.map (fun n => (d, some n)), r.2.2)
        else (c, .ok (d, none), buf) := by
  unfold process
  rw [decode_nf]
  by_cases h10 : p.length < 10
  · simp only [h10, if_true]
  cases hh : hdrOk p
  · simp only [h10, if_false, Bool.not_false, if_true]
  simp only [h10, if_false, Bool.not_true, Bool.false_eq_true]
  cases hc : isControl p
  · -- not a control message: one of the four other types, no dispatch
    simp only [Bool.false_eq_true, if_false]
    unfold vendorArm
    by_cases hp : byteAt p (p.length - 1) ≠ calcPec p
    · simp only [if_pos hp]
    · simp only [if_neg hp]
      have h2 : msgTypeOf p ≠ .control := fun hm => by rw [isControl_of_msgTypeOf hm] at hc; cases hc
      cases hm : msgTypeOf p <;> first | rfl | exact absurd hm (hdrOk_msgType p hh) | exact absurd hm h2
  · have hg : getHeaders p = .ok () := by rw [getHeaders_eq, if_neg h10, hh]; rfl
    cases hgc : getCtrl (p.drop 9) (calcPec p) with
    | err _ | panic _ => rfl
    | ok ctl =>
      obtain ⟨hcmd, hreq, hoff⟩ := getCtrl_ok_fields (by omega) hgc
      simp only [Out.bind_ok, hg, srcEid_get, byteAt_slice p 4 8 2 (by omega), hreq, hcmd, cmdOf]
      cases hr : isRequest p
      · rfl
      · simp only [if_true, hoff hr]
        rcases dispatch c (byteAt p 10) (byteAt p 6) (fun i => byteAt p (9 + 2 + i)) buf with ⟨c', r, b'⟩
        cases r <;> rfl

theorem acceptedRequest_iff (p : Bytes) :
    isAcceptedRequest p = true ↔
      12 ≤ p.length ∧ hdrOk p = true ∧ isControl p = true ∧ isRequest p = true ∧
      pecOk p = true ∧ lenFits (reqFixed (cmdOf p)) (p.length - 12) = true := by
  unfold isAcceptedRequest accept
  simp only [Bool.and_eq_true, decide_eq_true_eq]
  constructor
  · rintro ⟨⟨⟨⟨⟨hh, hp⟩, hif⟩, hc⟩, hr⟩, h12⟩
    rw [hc, hr] at hif
    exact ⟨h12, hh, hc, hr, hp, hif⟩
  · rintro ⟨h12, hh, hc, hr, hp, hl⟩
    rw [hc, hr]
    exact ⟨⟨⟨⟨⟨hh, hp⟩, hl⟩, rfl⟩, rfl⟩, h12⟩

theorem accepted_ctrl_req {p : Bytes} (ha : isAcceptedRequest p = true) : (isControl p && isRequest p) = true := by
  obtain ⟨-, -, hc, hr, -, -⟩ := (acceptedRequest_iff p).mp ha
  rw [hc, hr]; rfl

theorem decode_ok_request {p : Bytes} {d : Dec} (h : decode p = .ok d)
    (hcr : (isControl p && isRequest p) = true) :
    isAcceptedRequest p = true ∧ reqUnimpl (cmdOf p) = false ∧ d = (.control, 11, p.length - 12) := by
  obtain ⟨hc, hr⟩ := Bool.and_eq_true_iff.mp hcr
  rw [acceptedRequest_iff]
  obtain ⟨hh, hp, ⟨hc', -⟩ | ⟨-, -, h12, hu, hl, hd⟩ | ⟨-, hr', -⟩⟩ := decode_ok_inv h
  · rw [hc] at hc'; cases hc'
  · exact ⟨⟨h12, hh, hc, hr, hp, hl⟩, hu, hd⟩
  · rw [hr] at hr'; cases hr'

theorem decode_accepted_cases {p : Bytes} (ha : isAcceptedRequest p = true) :
    refDecode p = if reqUnimpl (cmdOf p) then .panic ⟨.unimplemented, .traits⟩ else .ok (.control, 11, p.length - 12) := by
  obtain ⟨h12, hh, hc, hr, hp, hl⟩ := (acceptedRequest_iff p).mp ha
  unfold refDecode
  rw [if_neg (show ¬ p.length < 10 by omega), if_neg (show ¬ p.length < 12 by omega), hh, hc, hr, hp, hl]
  rfl

theorem decode_accepted {p : Bytes} (ha : isAcceptedRequest p = true) (hu : reqUnimpl (cmdOf p) = false) :
    decode p = .ok (.control, 11, p.length - 12) := by
  rw [Refine.decode_eq_ref, decode_accepted_cases ha, hu]; rfl

theorem process_accepted (c : Ctx) (p buf : Bytes) (ha : isAcceptedRequest p = true)
    (hu : reqUnimpl (cmdOf p) = false) :
    process c p buf =
      let r := dispatch c (byteAt p 10) (byteAt p 6) (fun i => byteAt p (11 + i)) buf
      (r.1, r.2.1.map (fun n => ((MsgType.control, 11, p.length - 12), some n)), r.2.2) := by
  rw [process_eq_decode, decode_accepted ha hu]
  simp only [accepted_ctrl_req ha, if_true]

/-- the selector the vendor arm stores and reports -/
def nextSel (c : Ctx) (sel : B) : B :=
  if sel + 1#8 = BitVec.ofNat 8 c.vendorIds.length then 0xFF#8 else sel + 1#8

/-- the arm of `process_packet`'s dispatch taken for command `cmd` with payload bytes `op`, `eid`: the context it
leaves and the response encoder it calls, or the panic it raises before calling one.  `op`, `eid` are packet
bytes 11 and 12; for a short request they are the PEC or lie beyond it, and only the arms whose length-table
entry guarantees them (command 1: two bytes, command 6: one) look at them. -/
def arm (c : Ctx) (cmd op eid : B) : Ctx × (Panic ⊕ Enc) :=
  match Cmd.ofByte cmd with
  | .reserved => (c, .inl ⟨.unreachable, .smbus⟩)
  | .setEndpointID =>
    if op = 0#8 ∨ op = 1#8 then ({ c with respEid := eid, reqEid := eid }, .inr (.respSetEid 0#8 false 0#8))
    else
      (c, if op = 2#8 then .inl ⟨.unimplemented, .smbus⟩
          else if op = 3#8 then .inr (.respSetEid 2#8 false 0#8)
          else .inl ⟨.unreachable, .smbus⟩)
  | .getEndpointID => (c, .inr (.respGetEid 0#8 0#8 0#8 false))
  | .getEndpointUUID => (c, .inr (.respUuid 0#8 c.uuid))
  | .getMCTPVersionSupport => (c, .inr (.respVersion 0#8))
  | .getMessageTypeSupport => (c, .inr (.respMsgTypes 0#8 c.msgTypes))
  | .getVendorDefinedMessageSupport =>
    if op = 0xFF#8 then (c, .inl ⟨.addOverflow, .smbus⟩)
    else
      ({ c with selector := nextSel c op },
        match c.vendorIds[op.toNat]? with
        | none => .inl ⟨.indexOOB, .smbus⟩
        | some v =>
          match vendorField v with
          | some f => .inr (.respVendor 0#8 (nextSel c op) f)
          | none => .inl ⟨.unreachable, .smbus⟩)
  | _ => (c, .inl ⟨.unimplemented, .smbus⟩)

theorem dispatch_eq_arm (c : Ctx) (cmd src : B) (pay : Nat → B) (buf : Bytes) :
    dispatch c cmd src pay buf =
      match arm c cmd (pay 0) (pay 1) with
      | (c', .inl k) => (c', .panic k, buf)
      | (c', .inr e) => respond c' src e buf := by
  unfold dispatch arm
  generalize Cmd.ofByte cmd = v
  cases v <;> simp only []
  · by_cases h0 : pay 0 = 0#8 ∨ pay 0 = 1#8
    · simp only [if_pos h0]
    · by_cases h2 : pay 0 = 2#8
      · simp only [if_neg h0, if_pos h2]
      · by_cases h3 : pay 0 = 3#8
        · simp only [if_neg h0, if_neg h2, if_pos h3]
        · simp only [if_neg h0, if_neg h2, if_neg h3]
  · simp only [nextSel]
    by_cases hff : pay 0 = 0xFF#8
    · simp only [if_pos hff]
    · simp only [if_neg hff]
      cases c.vendorIds[(pay 0).toNat]? with
      | none => rfl
      | some v => simp only []; cases vendorField v <;> rfl

/-- the arms by command byte.  The two commands whose arm looks at the first payload byte come first, then
the commands without an arm (`unimplemented!()`), then Reserved (`unreachable!()`) and the four with a plain arm.  On a literal command byte
`arm` evaluates to that arm, so `rfl`, `if_pos`, `if_neg` apply to `arm c 0x01#8 op eid` as it stands. -/
theorem arm_cases (c : Ctx) (cmd op eid : B) :
    cmd = 0x01#8 ∨ cmd = 0x06#8 ∨ (7 ≤ cmd.toNat ∧ arm c cmd op eid = (c, .inl ⟨.unimplemented, .smbus⟩)) ∨
    cmd = 0x00#8 ∨ cmd = 0x02#8 ∨ cmd = 0x03#8 ∨ cmd = 0x04#8 ∨ cmd = 0x05#8 := by
  by_cases h7 : 7 ≤ cmd.toNat
  · refine .inr (.inr (.inl ⟨h7, ?_⟩))
    unfold arm
    split
    case h_8 => rfl   -- the default alternative of the match on `Cmd.ofByte cmd`
    all_goals (rename_i hv; exact absurd (cmd_ge h7 hv) (by decide))
  · have : cmd.toNat < 7 := by omega
    bv_omega   -- below 7 the byte is one of the seven literals

theorem arm_fst (c : Ctx) (cmd op eid : B) :
    ∃ s, (arm c cmd op eid).1 =
      if cmd = 0x01#8 ∧ (op = 0#8 ∨ op = 1#8) then { c with reqEid := eid, respEid := eid, selector := s }
      else { c with selector := s } := by
  rcases arm_cases c cmd op eid with rfl | rfl | ⟨h7, h⟩ | rfl | rfl | rfl | rfl | rfl
  · refine ⟨c.selector, ?_⟩
    by_cases h0 : op = 0#8 ∨ op = 1#8
    · rw [if_pos ⟨rfl, h0⟩]; exact congrArg Prod.fst (if_pos h0)
    · rw [if_neg fun h => h0 h.2]; exact congrArg Prod.fst (if_neg h0)
  · by_cases hff : op = 0xFF#8
    · exact ⟨c.selector, congrArg Prod.fst (if_pos hff)⟩
    · exact ⟨nextSel c op, congrArg Prod.fst (if_neg hff)⟩
  · exact ⟨c.selector, by rw [h, if_neg]; rintro ⟨rfl, -⟩; exact absurd h7 (by decide)⟩
  all_goals exact ⟨c.selector, rfl⟩

theorem arm_enc {c c' : Ctx} {cmd op eid : B} {e : Enc} (h : arm c cmd op eid = (c', .inr e)) :
    c'.address = c.address ∧
      ∃ cc f, (cc = 0x00#8 ∨ cc = 0x02#8) ∧ respFields c'.respEid e = some (cmd, cc, f) := by
  rcases arm_cases c cmd op eid with rfl | rfl | ⟨-, h'⟩ | rfl | rfl | rfl | rfl | rfl
  · by_cases h0 : op = 0#8 ∨ op = 1#8
    · cases (if_pos h0).symm.trans h
      exact ⟨rfl, _, _, .inl rfl, rfl⟩
    · obtain ⟨rfl, he⟩ := Prod.mk.inj ((if_neg h0).symm.trans h)
      split at he
      · cases he
      · split at he <;> cases he
        exact ⟨rfl, _, _, .inr rfl, rfl⟩
  · by_cases hff : op = 0xFF#8
    · cases (if_pos hff).symm.trans h
    · obtain ⟨rfl, he⟩ := Prod.mk.inj ((if_neg hff).symm.trans h)
      split at he
      · cases he
      · split at he <;> cases he
        exact ⟨rfl, _, _, .inl rfl, rfl⟩
  · rw [h'] at h; cases h
  · cases h   -- Reserved
  all_goals (cases h; exact ⟨rfl, _, _, .inl rfl, rfl⟩)

/-- a command whose arm answers is below 7, so the request length table has an entry for it -/
theorem arm_inr_reqUnimpl {c c' : Ctx} {cmd op eid : B} {e : Enc} (h : arm c cmd op eid = (c', .inr e)) :
    reqUnimpl cmd = false := by
  rcases arm_cases c cmd op eid with rfl | rfl | ⟨-, h'⟩ | rfl | rfl | rfl | rfl | rfl
  · rfl
  · rfl
  · rw [h'] at h; cases h
  all_goals rfl

theorem configOk_iff (c : Ctx) :
    configOk c = true ↔
      c.msgTypes.length ≤ 30 ∧ (∀ v ∈ c.vendorIds, v.format = 0#8 ∨ v.format = 1#8) ∧
      1 ≤ c.vendorIds.length ∧ c.vendorIds.length ≤ 255 ∧ c.uuid.length = 16 := by
  simp [configOk, and_assoc]

theorem vendorField_eq (v : VendorId) (h : v.format = 0#8 ∨ v.format = 1#8) :
    vendorField v = some (encodeSet v) ∧ (encodeSet v).length ≤ 7 := by
  unfold vendorField encodeSet
  rcases h with h | h <;> simp [h]

theorem nextSel_eq (c : Ctx) {sel : B} (h : sel.toNat < c.vendorIds.length) (h255 : c.vendorIds.length ≤ 255) :
    nextSel c sel = nextSelector sel.toNat c.vendorIds.length := by
  have e1 : sel + 1#8 = BitVec.ofNat 8 (sel.toNat + 1) := by
    apply BitVec.eq_of_toNat_eq; simp
  unfold nextSel nextSelector
  rw [e1]
  by_cases h3 : sel.toNat + 1 = c.vendorIds.length
  · rw [if_pos h3, if_pos (by rw [h3])]
  · rw [if_neg h3, if_neg (by bv_omega)]

theorem arm_vendor {c : Ctx} {sel eid : B} {v : VendorId} (hc : configOk c = true)
    (hv : c.vendorIds[sel.toNat]? = some v) :
    arm c 0x06#8 sel eid = ({ c with selector := nextSel c sel },
      .inr (.respVendor 0#8 (nextSelector sel.toNat c.vendorIds.length) (encodeSet v))) ∧
    (encodeSet v).length ≤ 7 := by
  obtain ⟨-, hfmt, -, h255, -⟩ := (configOk_iff c).mp hc
  obtain ⟨hlt, -⟩ := List.getElem?_eq_some_iff.mp hv
  obtain ⟨hf, hl⟩ := vendorField_eq v (hfmt v (List.mem_of_getElem? hv))
  have hsel : sel ≠ 0xFF#8 := by rintro rfl; simp at hlt; omega
  refine ⟨?_, hl⟩
  simp only [arm, show Cmd.ofByte 0x06#8 = .getVendorDefinedMessageSupport from rfl, if_neg hsel, hv, hf,
    nextSel_eq c hlt h255]

/-! the specification on the two commands whose outcome depends on the first payload byte -/

theorem expected_setEid {s : SpecSt} {p : Bytes} (h : cmdOf p = 0x01#8) :
    expectedResponse s p =
      if byteAt p 11 = 0x00#8 ∨ byteAt p 11 = 0x01#8 then some [0x00#8, 0x01#8, 0x00#8, 0x00#8, byteAt p 12, 0x00#8]
      else if byteAt p 11 = 0x03#8 then some [0x00#8, 0x01#8, 0x02#8, 0x00#8, s.eids.2, 0x00#8]
      else none := by
  unfold expectedResponse; rw [h]; rfl

theorem expected_vendor {s : SpecSt} {p : Bytes} (h : cmdOf p = 0x06#8) :
    expectedResponse s p =
      match s.vendors[(byteAt p 11).toNat]? with
      | some v => some ([0x00#8, 0x06#8, 0x00#8, nextSelector (byteAt p 11).toNat s.vendors.length] ++ encodeSet v)
      | none => none := by
  unfold expectedResponse; rw [h]; rfl

theorem panicClass_setEid {n : Nat} {p : Bytes} (h : cmdOf p = 0x01#8) :
    dispatchPanicClass n p =
      if isAcceptedRequest p then
        if byteAt p 11 = 0x02#8 then some ⟨.unimplemented, .smbus⟩
        else if 4 ≤ (byteAt p 11).toNat then some ⟨.unreachable, .smbus⟩ else none
      else none := by
  unfold dispatchPanicClass; rw [h]; rfl

theorem panicClass_vendor {n : Nat} {p : Bytes} (h : cmdOf p = 0x06#8) :
    dispatchPanicClass n p =
      if isAcceptedRequest p then
        if byteAt p 11 = 0xFF#8 then some ⟨.addOverflow, .smbus⟩
        else if n ≤ (byteAt p 11).toNat then some ⟨.indexOOB, .smbus⟩ else none
      else none := by
  unfold dispatchPanicClass; rw [h]; rfl

/-- the arms against the specification under a valid configuration: the panics are the D11 classes; `31` is
the longest answer, a Get Message Type Support response with the count and 30 types -/
theorem arm_spec (c : Ctx) (p : Bytes) (dst : B) (hc : configOk c = true) :
    match arm c (cmdOf p) (byteAt p 11) (byteAt p 12) with
    | (_, .inl k) =>
      expectedResponse ⟨c.address, c.msgTypes, c.vendorIds, (c.reqEid, c.respEid), c.uuid⟩ p = none ∧
      (isAcceptedRequest p = true → reqUnimpl (cmdOf p) = false →
        dispatchPanicClass c.vendorIds.length p = some k)
    | (c', .inr e) =>
      dispatchPanicClass c.vendorIds.length p = none ∧ c'.address = c.address ∧
      ∃ cc rest,
        expectedResponse ⟨c.address, c.msgTypes, c.vendorIds, (c.reqEid, c.respEid), c.uuid⟩ p =
          some (0x00#8 :: cmdOf p :: cc :: rest) ∧
        rest.length ≤ 31 ∧
        refEncode c'.address c'.respEid dst e =
          .ok (frame c'.address dst (0x00#8 :: 0x00#8 :: cmdOf p :: cc :: rest)) := by
  obtain ⟨ht, hfmt, -, h255, huu⟩ := (configOk_iff c).mp hc
  rcases arm_cases c (cmdOf p) (byteAt p 11) (byteAt p 12) with h | h | ⟨h7, h⟩ | h | h | h | h | h
  · -- Set Endpoint ID
    rw [h, expected_setEid h, panicClass_setEid h]
    by_cases h0 : byteAt p 11 = 0#8 ∨ byteAt p 11 = 1#8
    · have h2 : byteAt p 11 ≠ 2#8 ∧ ¬ 4 ≤ (byteAt p 11).toNat := by rcases h0 with h | h <;> rw [h] <;> decide
      rw [show arm c 0x01#8 _ _ = _ from if_pos h0, if_neg h2.1, if_neg h2.2, if_pos h0]
      exact ⟨ite_self _, rfl, _, _, rfl, by simp, RefineEnc.ref_setEid⟩
    rw [show arm c 0x01#8 _ _ = _ from if_neg h0, if_neg h0]
    by_cases h2 : byteAt p 11 = 2#8
    · rw [if_pos h2, if_pos h2]
      exact ⟨by rw [h2]; rfl, fun ha _ => by rw [ha]; rfl⟩
    rw [if_neg h2, if_neg h2]
    by_cases h3 : byteAt p 11 = 3#8
    · rw [if_pos h3, if_pos h3, if_neg (show ¬ 4 ≤ (byteAt p 11).toNat by rw [h3]; decide)]
      exact ⟨ite_self _, rfl, _, _, rfl, by simp, RefineEnc.ref_setEid⟩
    rw [if_neg h3, if_neg h3, if_pos (show 4 ≤ (byteAt p 11).toNat by bv_omega)]
    exact ⟨rfl, fun ha _ => by rw [ha]; rfl⟩
  · -- Get Vendor Defined Message Support
    rw [h, expected_vendor h, panicClass_vendor h]
    by_cases hff : byteAt p 11 = 0xFF#8
    · rw [show arm c 0x06#8 _ _ = _ from if_pos hff, if_pos hff,
        show c.vendorIds[(byteAt p 11).toNat]? = none from List.getElem?_eq_none (by rw [hff]; exact h255)]
      exact ⟨rfl, fun ha _ => by rw [ha]; rfl⟩
    rw [show arm c 0x06#8 _ _ = _ from if_neg hff, if_neg hff]
    cases hv : c.vendorIds[(byteAt p 11).toNat]? with
    | none =>
      rw [if_pos (List.getElem?_eq_none_iff.mp hv)]
      exact ⟨rfl, fun ha _ => by rw [ha]; rfl⟩
    | some v =>
      obtain ⟨hlt, -⟩ := List.getElem?_eq_some_iff.mp hv
      obtain ⟨hfe, hl7⟩ := vendorField_eq v (hfmt v (List.mem_of_getElem? hv))
      dsimp only
      rw [hfe, if_neg (show ¬ c.vendorIds.length ≤ (byteAt p 11).toNat by omega), nextSel_eq c hlt h255]
      exact ⟨ite_self _, rfl, _, _, rfl, by simp; omega, RefineEnc.ref_vendor hl7⟩
  · -- a command without an arm: none of the six branches of `Spec.expectedResponse` (Spec/Judge.lean) applies
    rw [h]
    have h6 : ∀ b : B, b.toNat < 7 → cmdOf p ≠ b := fun b hb e => by rw [e] at h7; omega
    refine ⟨?_, fun ha hu => ?_⟩
    · unfold expectedResponse
      rw [if_neg, if_neg, if_neg, if_neg, if_neg, if_neg] <;> exact h6 _ (by decide)
    · have h9 : (cmdOf p).toNat < 9 := by simpa [reqUnimpl] using hu
      unfold dispatchPanicClass
      rcases (show cmdOf p = 0x07#8 ∨ cmdOf p = 0x08#8 by bv_omega) with h | h <;> rw [ha, h] <;> rfl
  · -- Reserved
    rw [h]
    exact ⟨by unfold expectedResponse; rw [h]; rfl, fun ha _ => by unfold dispatchPanicClass; rw [ha, h]; rfl⟩
  -- the four plain arms
  all_goals
    rw [h]
    refine ⟨by unfold dispatchPanicClass; rw [h]; exact ite_self _, rfl, _, _,
      by unfold expectedResponse; rw [h]; rfl, ?_⟩
  · exact ⟨by simp, RefineEnc.ref_getEid⟩                  -- Get Endpoint ID
  · exact ⟨by simp [huu], RefineEnc.ref_uuid (by omega)⟩   -- Get Endpoint UUID
  · exact ⟨by simp, RefineEnc.ref_version⟩                 -- Get MCTP Version Support
  · exact ⟨by simp; omega, RefineEnc.ref_msgTypes ht⟩      -- Get Message Type Support

theorem respond_cases (c : Ctx) (dst : B) (e : Enc) (buf : Bytes) :
    match refEncode c.address c.respEid dst e with
    | .ok pkt =>
      if pkt.length ≤ buf.length then respond c dst e buf = (c, .ok pkt.length, pkt ++ buf.drop pkt.length)
      else ∃ k, respond c dst e buf = (c, .panic k, buf)
    | _ => ∃ k, respond c dst e buf = (c, .panic k, buf) := by
  have h := encode_cases c dst e buf
  rw [RefineEnc.encodeBytes_eq_ref] at h
  unfold respond
  cases hr : refEncode c.address c.respEid dst e <;> rw [hr] at h
  case ok pkt =>
    simp only [] at h ⊢
    split
    · rw [(if_pos ‹_›).mp h]
    · obtain ⟨k, hk⟩ := (if_neg ‹_›).mp h; rw [hk]; exact ⟨k, rfl⟩
  case err u => rw [show encode c dst e buf = .err () from h]; exact ⟨_, rfl⟩
  case panic q => obtain ⟨k, hk⟩ := h; rw [hk]; exact ⟨k, rfl⟩

theorem process_request (c : Ctx) (p buf : Bytes) (ha : isAcceptedRequest p = true)
    (hu : reqUnimpl (cmdOf p) = false) :
    process c p buf =
      match arm c (cmdOf p) (byteAt p 11) (byteAt p 12) with
      | (c', .inl k) => (c', .panic k, buf)
      | (c', .inr e) =>
        ((respond c' (byteAt p 6) e buf).1,
         (respond c' (byteAt p 6) e buf).2.1.map (fun n => ((MsgType.control, 11, p.length - 12), some n)),
         (respond c' (byteAt p 6) e buf).2.2) := by
  rw [process_accepted c p buf ha hu, dispatch_eq_arm]
  simp only [cmdOf]
  rcases arm c (byteAt p 10) (byteAt p 11) (byteAt p 12) with ⟨c', k | e⟩ <;> rfl

/-- an accepted request whose arm answers, into a buffer that holds the answer.  For the callers: `hk`, `hn`
are equations so that a literal command byte and length go in with `rfl` / `by simp; omega`; on a literal
command byte `harm` is `rfl` or `if_pos _`; `href` is one of `RefineEnc.ref_setEid` … `ref_vendor`. -/
theorem process_answer {c c' : Ctx} {p buf : Bytes} {e : Enc} {k cc : B} {rest : Bytes} {n : Nat}
    (ha : isAcceptedRequest p = true) (hk : cmdOf p = k)
    (harm : arm c k (byteAt p 11) (byteAt p 12) = (c', .inr e))
    (href : refEncode c'.address c'.respEid (byteAt p 6) e =
      .ok (frame c'.address (byteAt p 6) (0x00#8 :: 0x00#8 :: k :: cc :: rest)))
    (hn : n = 13 + rest.length) (hfit : n ≤ buf.length) :
    ∃ buf', process c p buf = (c', .ok ((.control, 11, p.length - 12), some n), buf') ∧
      buf' = frame c'.address (byteAt p 6) (0x00#8 :: 0x00#8 :: k :: cc :: rest) ++ buf.drop n ∧
      Spec.sub buf' 9 (n - 1) = 0x00#8 :: k :: cc :: rest := by
  subst hk hn
  have hr := respond_cases c' (byteAt p 6) e buf
  rw [href] at hr
  simp only [resp_frame_length] at hr
  refine ⟨_, ?_, rfl, (show 13 + rest.length - 1 = 12 + rest.length by omega) ▸ sub_resp_frame _ _ _ _ _ _ 1⟩
  rw [process_request c p buf ha (arm_inr_reqUnimpl harm), harm]
  simp only [(if_pos hfit).mp hr]
  rfl

/-- every outcome of `process_packet`: no dispatch, or an accepted request with a panic or one response -/
theorem process_cases (c : Ctx) (p buf : Bytes) :
    ((∀ d, decode p = .ok d → (isControl p && isRequest p) = false) ∧
      process c p buf = (c, (decode p).map (fun d => (d, none)), buf)) ∨
    (isAcceptedRequest p = true ∧ reqUnimpl (cmdOf p) = false ∧ decode p = .ok (.control, 11, p.length - 12) ∧
      ((∃ k, process c p buf = ((arm c (cmdOf p) (byteAt p 11) (byteAt p 12)).1, .panic k, buf)) ∨
       (∃ cc f, (cc = 0x00#8 ∨ cc = 0x02#8) ∧ f.length ≤ 246 ∧
          13 + f.length ≤ buf.length ∧
          process c p buf =
            ((arm c (cmdOf p) (byteAt p 11) (byteAt p 12)).1,
              .ok ((.control, 11, p.length - 12), some (13 + f.length)),
              frame c.address (byteAt p 6) (0x00#8 :: 0x00#8 :: cmdOf p :: cc :: f) ++ buf.drop (13 + f.length))))) := by
  by_cases hq : ∃ d, decode p = .ok d ∧ (isControl p && isRequest p) = true
  · obtain ⟨d, hd, hcr⟩ := hq
    obtain ⟨ha, hu, rfl⟩ := decode_ok_request hd hcr
    refine .inr ⟨ha, hu, hd, ?_⟩
    rw [process_request c p buf ha hu]
    rcases harm : arm c (cmdOf p) (byteAt p 11) (byteAt p 12) with ⟨c', k | e⟩
    · exact .inl ⟨k, rfl⟩
    · obtain ⟨haddr, cc, f, hcc, hf⟩ := arm_enc harm
      have hr := respond_cases c' (byteAt p 6) e buf
      cases href : refEncode c'.address c'.respEid (byteAt p 6) e with
      | ok pkt =>
        rw [href] at hr
        obtain ⟨rfl, h250⟩ := RefineEnc.refEncode_ok_inv href
        rw [RefineEnc.libMessage_resp hf] at hr h250
        simp only [resp_frame_length] at hr
        simp only [List.length_cons] at h250
        by_cases hfit : 13 + f.length ≤ buf.length
        · rw [if_pos hfit] at hr
          refine .inr ⟨cc, f, hcc, by omega, hfit, ?_⟩
          simp only [hr, haddr]; rfl
        · obtain ⟨k, hk⟩ := (if_neg hfit).mp hr
          exact .inl ⟨k, by simp only [hk]; rfl⟩
      | _ => rw [href] at hr; obtain ⟨k, hk⟩ := hr; exact .inl ⟨k, by simp only [hk]; rfl⟩
  · left
    have hq' : ∀ d, decode p = .ok d → (isControl p && isRequest p) = false :=
      fun d hd => Bool.eq_false_iff.mpr fun hx => hq ⟨d, hd, hx⟩
    refine ⟨hq', ?_⟩
    rw [process_eq_decode]
    cases hd : decode p with
    | err _ | panic _ => rfl
    | ok d => simp [hq' d hd, Out.map]

theorem process_ok_some {c : Ctx} {p buf : Bytes} {d : Dec} {n : Nat} (h : (process c p buf).2.1 = .ok (d, some n)) :
    isAcceptedRequest p = true ∧ n ≤ buf.length ∧ ∃ cc f, (cc = 0x00#8 ∨ cc = 0x02#8) ∧ f.length ≤ 246 ∧
      n = 13 + f.length ∧
      (process c p buf).2.2 = frame c.address (byteAt p 6) (0x00#8 :: 0x00#8 :: cmdOf p :: cc :: f) ++ buf.drop n := by
  rcases process_cases c p buf with ⟨-, hp⟩ | ⟨ha, -, -, ⟨k, hp⟩ | ⟨cc, f, hcc, h246, hle, hp⟩⟩ <;> rw [hp] at h ⊢
  · cases hdec : decode p <;> simp [hdec, Out.map] at h
  · cases h
  · obtain rfl := Option.some.inj (Prod.mk.inj (Out.ok.inj h)).2
    exact ⟨ha, hle, cc, f, hcc, h246, rfl, rfl⟩

theorem process_ok_none {c : Ctx} {p buf : Bytes} {d : Dec} (h : (process c p buf).2.1 = .ok (d, none)) :
    (isControl p && isRequest p) = false ∧ decode p = .ok d ∧ process c p buf = (c, .ok (d, none), buf) := by
  rcases process_cases c p buf with ⟨hn, hp⟩ | ⟨-, -, -, ⟨k, hp⟩ | ⟨cc, f, -, -, -, hp⟩⟩ <;> rw [hp] at h ⊢
  · cases hdec : decode p with
    | ok d' =>
      rw [hdec] at h
      obtain rfl := (Prod.mk.inj (Out.ok.inj h)).1
      exact ⟨hn d' hdec, rfl, rfl⟩
    | _ => rw [hdec] at h; cases h
  · cases h
  · cases (Prod.mk.inj (Out.ok.inj h)).2

theorem assigns_eq (p : Bytes) :
    assigns p =
      if isAcceptedRequest p = true ∧ cmdOf p = 0x01#8 ∧ (byteAt p 11 = 0#8 ∨ byteAt p 11 = 1#8) then some (byteAt p 12)
      else none := by
  unfold assigns
  simp [and_assoc]

theorem process_fst (c : Ctx) (p buf : Bytes) :
    ∃ s, (process c p buf).1 =
      match assigns p with
      | some e => { c with reqEid := e, respEid := e, selector := s }
      | none => { c with selector := s } := by
  rw [assigns_eq]
  rcases process_cases c p buf with ⟨hn, h⟩ | ⟨ha, -, -, ⟨k, h⟩ | ⟨cc, f, -, -, -, h⟩⟩ <;> rw [h]
  case inl =>
    rw [if_neg]
    · exact ⟨c.selector, rfl⟩
    rintro ⟨ha, hcmd, -⟩
    have hu : reqUnimpl (cmdOf p) = false := by rw [hcmd]; decide
    exact Bool.false_ne_true ((hn _ (decode_accepted ha hu)).symm.trans (accepted_ctrl_req ha))
  all_goals
    obtain ⟨s, hs⟩ := arm_fst c (cmdOf p) (byteAt p 11) (byteAt p 12)
    refine ⟨s, hs.trans ?_⟩
    by_cases hq : cmdOf p = 0x01#8 ∧ (byteAt p 11 = 0#8 ∨ byteAt p 11 = 1#8)
    · rw [if_pos hq, if_pos ⟨ha, hq⟩]
    · rw [if_neg hq, if_neg fun h => hq h.2]

theorem process_eids (c : Ctx) (p buf : Bytes) :
    ((process c p buf).1.reqEid, (process c p buf).1.respEid) =
      match assigns p with
      | some e => (e, e)
      | none => (c.reqEid, c.respEid) := by
  obtain ⟨s, h⟩ := process_fst c p buf
  rw [h]
  cases assigns p <;> rfl

end Proc
end Mctp
