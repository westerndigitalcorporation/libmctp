/-
The transmit path in normal form.  Every packet the library writes is `frame addr dst m`: the SMBus
header, the transport header, the message `m` (type byte, additional header, data) and the PEC.  The
packet generator and the buffer-writing encoder API are characterised once, for every call and every buffer,
against the pure form `encodeBytes`, and every call's body against the reference message
(`Spec.libMessage`, Spec/RefEncode.lean); the reference encoder itself enters in `Props/RefineEnc`.
-/
import Mctp.Lemmas.Headers
import Mctp.Lemmas.Crc
import Mctp.Spec.RefEncode
namespace Mctp

/-- a packet before its PEC.  The byte count covers what follows it up to the PEC: source address, four
transport bytes and the message, `m.length + 5`; `0xC8` is SOM, EOM, sequence 0, TO, tag 0. -/
def framePre (a d : B) (m : Bytes) : Bytes :=
  (d &&& 0x7F#8) <<< 1 :: 0x0F#8 :: BitVec.ofNat 8 (m.length + 5) :: (((a &&& 0x7F#8) <<< 1) ||| 1#8) ::
    0x01#8 :: d :: a :: 0xC8#8 :: m

def frame (a d : B) (m : Bytes) : Bytes := framePre a d m ++ [Spec.crc (framePre a d m)]

theorem frame_length (a d : B) (m : Bytes) : (frame a d m).length = m.length + 9 := by
  simp [frame, framePre]

theorem frame_cons (a d : B) (m : Bytes) :
    frame a d m = (d &&& 0x7F#8) <<< 1 :: 0x0F#8 :: BitVec.ofNat 8 (m.length + 5) ::
      (((a &&& 0x7F#8) <<< 1) ||| 1#8) :: 0x01#8 :: d :: a :: 0xC8#8 :: (m ++ [Spec.crc (framePre a d m)]) := rfl

theorem sub_frame_append (a d : B) (m tail : Bytes) (i : Nat) :
    Spec.sub (frame a d m ++ tail) (8 + i) (m.length + 8) = m.drop i := by
  have h : (framePre a d m).length = m.length + 8 := by simp [framePre]
  unfold Spec.sub frame
  rw [List.append_assoc, List.take_left' h, Nat.add_comm]
  rfl

theorem sub_frame (a d : B) (m : Bytes) (i : Nat) :
    Spec.sub (frame a d m) (8 + i) (m.length + 8) = m.drop i := by
  have := sub_frame_append a d m [] i
  rwa [List.append_nil] at this

/-! a control response `Rq=0 D=0 instance 0, cmd, cc, f` has `13 + f.length` bytes; the frame facts at
that length, which is how the processor's statements count: length, `take`, `drop`, `sub` -/

theorem resp_frame_length (a d cmd cc : B) (f : Bytes) :
    (frame a d (0x00#8 :: 0x00#8 :: cmd :: cc :: f)).length = 13 + f.length := by
  rw [frame_length]; simp only [List.length_cons]; omega

theorem take_resp_frame (a d cmd cc : B) (f tail : Bytes) :
    (frame a d (0x00#8 :: 0x00#8 :: cmd :: cc :: f) ++ tail).take (13 + f.length) =
      frame a d (0x00#8 :: 0x00#8 :: cmd :: cc :: f) :=
  List.take_left' (resp_frame_length ..)

theorem drop_resp_frame (a d cmd cc : B) (f tail : Bytes) :
    (frame a d (0x00#8 :: 0x00#8 :: cmd :: cc :: f) ++ tail).drop (13 + f.length) = tail :=
  List.drop_left' (resp_frame_length ..)

theorem sub_resp_frame (a d cmd cc : B) (f tail : Bytes) (i : Nat) :
    Spec.sub (frame a d (0x00#8 :: 0x00#8 :: cmd :: cc :: f) ++ tail) (8 + i) (12 + f.length) =
      (0x00#8 :: 0x00#8 :: cmd :: cc :: f).drop i := by
  have e : 12 + f.length = (0x00#8 :: 0x00#8 :: cmd :: cc :: f).length + 8 := by
    simp only [List.length_cons]; omega
  rw [e]; exact sub_frame_append ..

theorem byteAt_frame (a d : B) (m : Bytes) (i : Nat) (h : i < m.length) :
    byteAt (frame a d m) (8 + i) = byteAt m i := by
  rw [frame_cons, Nat.add_comm 8 i]
  show (m ++ _).getD i 0 = m.getD i 0
  rw [List.getD_eq_getElem?_getD, List.getD_eq_getElem?_getD, List.getElem?_append_left h]

theorem pecOk_frame (a d : B) (m : Bytes) : Spec.pecOk (frame a d m) = true := by
  rw [frame, pecOk_concat]; exact beq_self_eq_true _

theorem crc_frame (a d : B) (m : Bytes) : Spec.crc (frame a d m) = 0x00#8 := by
  unfold frame; rw [← crc8_eq_spec, ← crc8_eq_spec, crc_append_self]; rfl

/-- C04 of a frame: addresses, command code, byte count and length agree -/
theorem frameOk_frame (a d : B) (m : Bytes) (h : m.length ≤ 250) :
    Spec.frameOk a d (frame a d m) (m.length + 9) = true := by
  have hc : (m.length + 5) % 256 = m.length + 5 := Nat.mod_eq_of_lt (by omega)
  unfold Spec.frameOk
  rw [frame_length, frame_cons]
  simp [byteAt, hc]

/-- the message `generate_*_packet_bytes` is asked to send: type byte, additional header, data -/
def msgOf (t : MsgType) (h : Option Bytes) (data : Bytes) : Bytes := (t.toByte &&& 0x7F#8) :: (optBytes h ++ data)

theorem optBytes_length (h : Option Bytes) : (optBytes h).length = optLen h := by
  cases h <;> rfl

theorem msgOf_length (t : MsgType) (h : Option Bytes) (data : Bytes) :
    (msgOf t h data).length = 1 + optLen h + data.length := by
  simp [msgOf, optBytes_length]; omega

theorem packetBytes_eq_frame (a d : B) (t : MsgType) (h : Option Bytes) (data : Bytes) :
    packetBytes a d t h data = frame a d (msgOf t h data) := by
  have e : 4 + 4 + (1 + optLen h + data.length) + 1 - 4 = (msgOf t h data).length + 5 := by
    rw [msgOf_length]; omega
  simp only [packetBytes]
  rw [smbusHeaderFinal_eq, transportHeader_eq, bodyHeader_eq, e, crc8_eq_spec]
  rfl

/-- one write of the packet writer: `w` is what was written so far, over the front of `buf`.  The offset is a
variable with an equation so that the literal offsets 0, 4, 8, 9 of `packetToRaw` match as they stand. -/
theorem writeAt_front (w src buf : Bytes) (off : Nat) (file : SrcFile) (ho : off = w.length)
    (h : (w ++ src).length ≤ buf.length) :
    writeAt (w ++ buf.drop w.length) off src file = .ok ((w ++ src) ++ buf.drop (w ++ src).length) := by
  subst ho
  rw [List.length_append] at h
  unfold writeAt
  rw [if_pos (by simp; omega)]
  simp [splice]

theorem writeAt_ok_length {buf src : Bytes} {off : Nat} {file : SrcFile} {b : Bytes}
    (h : writeAt buf off src file = .ok b) : b.length = buf.length := by
  unfold writeAt at h
  split at h
  · cases h; simp [splice]; omega
  · cases h

theorem writeAt_ne_err {buf src : Bytes} {off : Nat} {file : SrcFile} :
    writeAt buf off src file ≠ .err () := by
  unfold writeAt; split <;> simp

theorem packetToRaw_ok {sm tr bh : Bytes} {hdr : Option Bytes} {data buf : Bytes}
    (h1 : sm.length = 4) (h2 : tr.length = 4) (h3 : bh.length = 1)
    (hbuf : 10 + optLen hdr + data.length ≤ buf.length) :
    packetToRaw sm tr bh hdr data buf =
      .ok ((sm ++ tr ++ bh ++ optBytes hdr ++ data) ++ [crc8 (sm ++ tr ++ bh ++ optBytes hdr ++ data)] ++
        buf.drop (10 + optLen hdr + data.length), 10 + optLen hdr + data.length) := by
  have hh := optBytes_length hdr
  -- every write, and the PEC after them, is in range
  have H : sm.length ≤ buf.length ∧ (sm ++ tr).length ≤ buf.length ∧ (sm ++ tr ++ bh).length ≤ buf.length ∧
      (sm ++ tr ++ bh ++ optBytes hdr).length ≤ buf.length ∧
      (sm ++ tr ++ bh ++ optBytes hdr ++ data).length < buf.length ∧
      9 + optLen hdr + data.length = (sm ++ tr ++ bh ++ optBytes hdr ++ data).length ∧
      10 + optLen hdr + data.length = (sm ++ tr ++ bh ++ optBytes hdr ++ data).length + 1 := by
    simp only [List.length_append]
    omega
  obtain ⟨r1, r2, r3, r4, r5, hpl, hpl'⟩ := H
  have w1 := writeAt_front [] sm buf 0 .proto rfl r1
  simp only [List.nil_append, List.length_nil, List.drop_zero] at w1
  unfold packetToRaw
  rw [w1, Out.bind_ok, writeAt_front sm tr buf 4 .proto h1.symm r2, Out.bind_ok,
    writeAt_front _ bh buf 8 .base (by rw [List.length_append, h1, h2]) r3, Out.bind_ok,
    writeAt_front _ (optBytes hdr) buf 9 .base (by rw [List.length_append, List.length_append, h1, h2, h3]) r4,
    Out.bind_ok,
    writeAt_front _ data buf (9 + optLen hdr) .base
      (by rw [List.length_append, List.length_append, List.length_append, h1, h2, h3, hh]) (Nat.le_of_lt r5),
    Out.bind_ok, hpl, hpl']
  generalize sm ++ tr ++ bh ++ optBytes hdr ++ data = pre at r5 ⊢
  -- the PEC goes over the first byte of what is left of the buffer
  rw [if_pos (by rw [List.length_append, List.length_drop]; omega),
    List.drop_eq_getElem_cons r5, List.set_append_right _ _ (Nat.le_refl _), Nat.sub_self, List.set_cons_zero]
  simp

theorem packetToRaw_ok_inv (sm tr bh : Bytes) (hdr : Option Bytes) (data buf : Bytes) :
    packetToRaw sm tr bh hdr data buf ≠ .err () ∧
      ∀ r, packetToRaw sm tr bh hdr data buf = .ok r → 10 + optLen hdr + data.length ≤ buf.length := by
  unfold packetToRaw
  constructor
  · intro h
    simp only [Out.bind_eq_err, writeAt_ne_err, false_or] at h
    obtain ⟨b1, -, b2, -, b3, -, b4, -, b5, -, h⟩ := h
    split at h <;> cases h
  · intro r h
    simp only [Out.bind_eq_ok] at h
    obtain ⟨b1, w1, b2, w2, b3, w3, b4, w4, b5, w5, h⟩ := h
    have l1 := writeAt_ok_length w1
    have l2 := writeAt_ok_length w2
    have l3 := writeAt_ok_length w3
    have l4 := writeAt_ok_length w4
    have l5 := writeAt_ok_length w5
    split at h
    · omega
    · cases h

/-- `generate_*_packet_bytes`: refusal above 250 message bytes, otherwise the frame over the front of
a buffer that holds it and a panic (slice or index out of range) on one that does not -/
theorem genPacket_cases (a d : B) (t : MsgType) (h : Option Bytes) (data buf : Bytes) :
    if 250 < (msgOf t h data).length then genPacket a d t h data buf = .err ()
    else if (msgOf t h data).length + 9 ≤ buf.length then
      genPacket a d t h data buf =
        .ok (frame a d (msgOf t h data) ++ buf.drop ((msgOf t h data).length + 9), (msgOf t h data).length + 9)
    else ∃ p, genPacket a d t h data buf = .panic p := by
  have hl := msgOf_length t h data
  by_cases hbig : 250 < (msgOf t h data).length
  · rw [if_pos hbig]
    unfold genPacket
    rw [if_pos (by unfold maxBodyLen; omega)]
  rw [if_neg hbig]
  have hg : genPacket a d t h data buf =
      packetToRaw (smbusHeaderFinal a d (4 + 4 + (1 + optLen h + data.length) + 1)) (transportHeader a d)
        (bodyHeader t) h data buf := by
    unfold genPacket
    rw [if_neg (by unfold maxBodyLen; omega)]
  rw [hg]
  by_cases hbuf : (msgOf t h data).length + 9 ≤ buf.length
  · rw [if_pos hbuf, packetToRaw_ok (by rw [smbusHeaderFinal_eq]; rfl) (by rw [transportHeader_eq]; rfl)
      (by rw [bodyHeader_eq]; rfl) (by omega)]
    have e : 10 + optLen h + data.length = (msgOf t h data).length + 9 := by omega
    rw [e, ← packetBytes_eq_frame]; rfl
  · rw [if_neg hbuf]
    obtain ⟨hne, hok⟩ := packetToRaw_ok_inv
      (smbusHeaderFinal a d (4 + 4 + (1 + optLen h + data.length) + 1)) (transportHeader a d) (bodyHeader t) h data buf
    generalize packetToRaw _ _ _ h data buf = r at hne hok
    cases r with
    | ok r => have := hok r rfl; omega
    | err u => exact absurd rfl hne
    | panic p => exact ⟨p, rfl⟩

theorem encode_of_body {c : Ctx} {dst : B} {e : Enc} {t : MsgType} {h : Option Bytes} {d : Bytes}
    (hb : e.body c = .ok (t, h, d)) (hs : e.isStub = false) (buf : Bytes) :
    encode c dst e buf = genPacket c.address dst t h d buf := by
  unfold encode
  rw [hb, Out.bind_ok]
  simp only [hs, Bool.false_eq_true, if_false]

theorem encode_cases (c : Ctx) (dst : B) (e : Enc) (buf : Bytes) :
    match encodeBytes c dst e with
    | .ok pkt =>
      if pkt.length ≤ buf.length then encode c dst e buf = .ok (pkt ++ buf.drop pkt.length, pkt.length)
      else ∃ p, encode c dst e buf = .panic p
    | .err _ => encode c dst e buf = .err ()
    | .panic _ => ∃ p, encode c dst e buf = .panic p := by
  unfold encodeBytes encode
  cases hb : e.body c with
  | err u => rfl
  | panic p => exact ⟨p, rfl⟩
  | ok x =>
    obtain ⟨t, h, d⟩ := x
    have hg := genPacket_cases c.address dst t h d buf
    have hl := msgOf_length t h d
    simp only [Out.bind_ok]
    cases hs : e.isStub
    · simp only [Bool.false_eq_true, if_false]
      by_cases hbig : 250 < (msgOf t h d).length
      · rw [if_pos (by unfold maxBodyLen; omega)]; rw [if_pos hbig] at hg; exact hg
      · rw [if_neg (by unfold maxBodyLen; omega)]; rw [if_neg hbig] at hg
        simpa only [packetBytes_eq_frame, frame_length] using hg
    · simp only [if_true]
      split <;> exact ⟨_, rfl⟩

theorem encodeBytes_ok_length {c : Ctx} {dst : B} {e : Enc} {pkt : Bytes} (h : encodeBytes c dst e = .ok pkt) :
    10 ≤ pkt.length := by
  unfold encodeBytes at h
  obtain ⟨⟨t, hd, d⟩, -, h⟩ := Out.bind_eq_ok.mp h
  simp only [] at h
  split at h
  · cases h
  · split at h
    · cases h
    · rw [← Out.ok.inj h, packetBytes_eq_frame, frame_length, msgOf_length]; omega

theorem body_cases (c : Ctx) (e : Enc) :
    (Spec.documentedInvalid e = true ∧ e.body c = .err ()) ∨
    (Spec.documentedInvalid e = false ∧ (∃ cc sel vid, e = .respVendor cc sel vid ∧ 7 < vid.length) ∧
      e.body c = .panic ⟨.indexOOB, .response⟩) ∨
    (Spec.documentedInvalid e = false ∧ (∀ cc sel vid, e = .respVendor cc sel vid → vid.length ≤ 7) ∧
      ∃ t h d, e.body c = .ok (t, h, d) ∧ msgOf t h d = Spec.libMessage c.respEid e) := by
  cases e
  case reqSetEid op eid =>
    by_cases g : eid = 0xFF#8 ∨ eid = 0x00#8
    · exact .inl ⟨by simpa [Spec.documentedInvalid, or_comm] using g, if_pos g⟩
    · exact .inr (.inr ⟨by simpa [Spec.documentedInvalid, or_comm] using g, (fun _ _ _ h => nomatch h), _, _, _, if_neg g,
        by rw [ctrlHeader_eq]; rfl⟩)
  case reqRouting es =>
    by_cases g : es.length / 4 * 4 > 31
    · exact .inl ⟨by simp only [Spec.documentedInvalid, decide_eq_true_eq]; omega, if_pos g⟩
    · exact .inr (.inr ⟨by simp only [Spec.documentedInvalid, decide_eq_false_iff_not]; omega, (fun _ _ _ h => nomatch h), _, _, _, if_neg g,
        by rw [ctrlHeader_eq]; rfl⟩)
  case respMsgTypes cc ts =>
    by_cases g : ts.length > 30
    · exact .inl ⟨decide_eq_true g, if_pos g⟩
    · exact .inr (.inr ⟨decide_eq_false g, (fun _ _ _ h => nomatch h), _, _, _, if_neg g, by rw [ctrlHeader_eq]; rfl⟩)
  case respSetEid cc rej alloc =>
    refine .inr (.inr ⟨rfl, (fun _ _ _ h => nomatch h), _, _, _, rfl, ?_⟩)
    rw [ctrlHeader_eq]
    cases rej
    · exact congrArg (fun x => [0x00#8, 0x00#8, 0x01#8, cc, x, c.respEid, 0x00#8]) (by simp)
    · exact congrArg (fun x => [0x00#8, 0x00#8, 0x01#8, cc, x, c.respEid, 0x00#8]) (BitVec.or_comm _ _)
  case respVendor cc sel vid =>
    by_cases g : vid.length > 7
    · exact .inr (.inl ⟨rfl, ⟨_, _, _, rfl, g⟩, if_pos g⟩)
    · exact .inr (.inr ⟨rfl, fun _ _ _ h => by cases h; omega, _, _, _, if_neg g, by rw [ctrlHeader_eq]; rfl⟩)
  case vendorDefined v msg =>
    have hm : Spec.libMessage c.respEid (.vendorDefined v msg) =
        (Spec.vendorFrame (.vendorDefined v msg)).getD [] := rfl
    rw [hm]
    simp only [Spec.vendorFrame, Spec.documentedInvalid]
    by_cases h0 : v.format = 0#8
    · refine .inr (.inr ⟨by simp [h0], (fun _ _ _ h => nomatch h), _, _, _, if_pos h0, ?_⟩)
      rw [pciHeader_eq, if_pos h0]; rfl
    · by_cases h1 : v.format = 1#8
      · refine .inr (.inr ⟨by simp [h1], (fun _ _ _ h => nomatch h), _, _, _, (if_neg h0).trans (if_pos h1), ?_⟩)
        rw [ianaHeader_eq, if_neg h0, if_pos h1]; rfl
      · exact .inl ⟨by simp [h0, h1], (if_neg h0).trans (if_neg h1)⟩
  -- the calls without a guard: the message is the literal table's
  all_goals
    refine .inr (.inr ⟨rfl, (fun _ _ _ h => nomatch h), _, _, _, rfl, ?_⟩)
    first | (rw [ctrlHeader_eq]; rfl) | rfl

theorem body_err_iff (c : Ctx) (e : Enc) : e.body c = .err () ↔ Spec.documentedInvalid e = true := by
  rcases body_cases c e with ⟨hd, hb⟩ | ⟨hd, -, hb⟩ | ⟨hd, -, t, h, d, hb, -⟩ <;> rw [hb, hd]
  · exact iff_of_true rfl rfl
  all_goals exact iff_of_false nofun nofun

theorem body_panic (c : Ctx) (e : Enc) (p : Panic) (h : e.body c = .panic p) : Spec.argsOk e = false := by
  rcases body_cases c e with ⟨-, hb⟩ | ⟨-, ⟨cc, sel, vid, rfl, hv⟩, -⟩ | ⟨-, -, t, hd, d, hb, -⟩
  · rw [hb] at h; cases h
  · exact decide_eq_false (by omega)
  · rw [hb] at h; cases h

theorem body_msg (c : Ctx) (e : Enc) (hd : Spec.documentedInvalid e = false)
    (hv : ∀ cc sel vid, e = .respVendor cc sel vid → vid.length ≤ 7) :
    ∃ t h d, e.body c = .ok (t, h, d) ∧ msgOf t h d = Spec.libMessage c.respEid e := by
  rcases body_cases c e with ⟨hd', -⟩ | ⟨-, ⟨cc, sel, vid, rfl, hv'⟩, -⟩ | ⟨-, -, h⟩
  · rw [hd] at hd'; cases hd'
  · have := hv _ _ _ rfl; omega
  · exact h

end Mctp
