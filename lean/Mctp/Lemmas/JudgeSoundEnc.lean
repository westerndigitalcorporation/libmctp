/-
Helper lemmas for Props/JudgeSoundEnc: the error and panic outcomes of `encode` in the judge's terms.
The judge measures a call by `Spec.messageLen` (and by the lengths of `Spec.reqBody` / `Spec.respFields` /
`Spec.vendorFrame`, which determine it); the encoder refuses and panics by the length of the message the
library sends (`Spec.libMessage`).  For arguments of the documented shapes the two lengths agree.
-/
import Mctp.Props.RefineEnc
import Mctp.Spec.Judge
namespace Mctp
namespace JSE
open Spec

theorem messageLen_req {r : B} {e : Enc} {body : Bytes} (hr : reqBody e = some body) :
    messageLen r e = some (1 + body.length) := by
  unfold messageLen; rw [hr]

theorem messageLen_resp {r : B} {e : Enc} {cmd cc : B} {f : Bytes} (hf : respFields r e = some (cmd, cc, f)) :
    messageLen r e = some (4 + f.length) := by
  unfold messageLen; rw [RefineEnc.reqBody_of_respFields hf, hf]

/-- `vendor_defined`, which the judge measures by a clause of its own: the length is that of the vendor
frame, and there is a frame unless the format is documented-invalid -/
theorem vendorDefined_len (r : B) (v : VendorId) (msg : Bytes) :
    messageLen r (.vendorDefined v msg) = (vendorFrame (.vendorDefined v msg)).map (·.length) ∧
      (vendorFrame (.vendorDefined v msg) = none ∨ documentedInvalid (.vendorDefined v msg) = false) := by
  -- the three definitions unfolded by `show`: `simp` / `unfold` on these big matches is slow
  show (if v.format = 0#8 then some (3 + msg.length) else if v.format = 1#8 then some (5 + msg.length) else none) =
      Option.map _ (if v.format = 0#8 then some _ else if v.format = 1#8 then some _ else none) ∧
    ((if v.format = 0#8 then some _ else if v.format = 1#8 then some _ else none) = none ∨
      (!(v.format == 0#8 || v.format == 1#8)) = false)
  by_cases h0 : v.format = 0#8
  · rw [h0]
    exact ⟨congrArg some (by simp only [List.length_cons]; omega), .inr rfl⟩
  · by_cases h1 : v.format = 1#8
    · rw [h1]
      exact ⟨congrArg some (by simp only [List.length_cons]; omega), .inr rfl⟩
    · rw [if_neg h0, if_neg h0, if_neg h1, if_neg h1]
      exact ⟨rfl, .inl rfl⟩

theorem messageLen_vendor {r : B} {e : Enc} {fr : Bytes} (hv : vendorFrame e = some fr) :
    messageLen r e = some fr.length ∧ documentedInvalid e = false ∧ argsOk e = true := by
  unfold vendorFrame at hv
  split at hv <;> first | exact ⟨congrArg (Option.map _) hv, rfl, rfl⟩ | cases hv | skip
  rename_i v msg
  have hv : vendorFrame (.vendorDefined v msg) = some fr := hv
  obtain ⟨hl, hn | hd⟩ := vendorDefined_len r v msg
  · rw [hn] at hv; cases hv
  · rw [hl, hv]; exact ⟨rfl, hd, rfl⟩

/-- with arguments of the documented shapes the judge's message length is the length of the message
the library sends (it sends whole routing entries only; the judge counts all bytes given) -/
theorem messageLen_lib {r : B} {e : Enc} {m : Nat} (ha : argsOk e = true) (hm : messageLen r e = some m) :
    (libMessage r e).length = m := by
  have vendor {e : Enc} (h : (vendorFrame e).map (·.length) = some m) : (libMessage r e).length = m := by
    obtain ⟨fr, hv, rfl⟩ := Option.map_eq_some_iff.mp h
    rw [RefineEnc.libMessage_vendor hv]
  unfold messageLen at hm
  split at hm
  · rename_i b hr
    obtain rfl := Option.some.inj hm
    by_cases hq : ∃ a t, e = .reqQueryHop a t
    · obtain ⟨a, t, rfl⟩ := hq
      obtain rfl := Option.some.inj hr
      rfl
    · rw [RefineEnc.libMessage_req hr (fun a t he => hq ⟨a, t, he⟩) ha, List.length_cons, Nat.add_comm]
  · split at hm
    · rename_i cmd cc f hf
      obtain rfl := Option.some.inj hm
      rw [RefineEnc.libMessage_resp hf]
      simp only [List.length_cons]
      omega
    · split at hm
      · rename_i h d _ _
        obtain rfl := Option.some.inj hm
        show (optBytes h ++ d).length + 1 = _
        rw [List.length_append, optBytes_length]
        omega
      · rename_i v msg _ _
        exact vendor ((vendorDefined_len r v msg).1.symm.trans hm)
      · exact vendor hm

theorem reqBody_small {e : Enc} {body : Bytes} (hd : documentedInvalid e = false) (ha : argsOk e = true)
    (hr : reqBody e = some body) : body.length ≤ 34 := by   -- a routing update of 31 bytes
  cases e <;> first | (cases hr; done) | (cases hr; exact Nat.le_of_ble_eq_true rfl) | skip
  -- the two requests that carry a slice
  case reqRouting es =>
    have h8 : ¬ 8 ≤ es.length / 4 := of_decide_eq_false hd
    cases hr
    simp only [List.length_cons]
    omega
  case reqResolveUuid u h =>
    have h16 : u.length = 16 := eq_of_beq ha
    cases hr
    simp only [List.length_cons, List.length_append, h16]
    decide

theorem respFields_small {r : B} {e : Enc} {cmd cc : B} {f : Bytes} (hd : documentedInvalid e = false)
    (ha : argsOk e = true) (hf : respFields r e = some (cmd, cc, f)) : f.length ≤ 31 := by   -- the count and 30 types
  unfold respFields at hf
  split at hf <;> cases hf <;> first | exact Nat.le_of_ble_eq_true rfl | skip
  -- the three responses that carry a slice
  · have h16 : f.length = 16 := eq_of_beq ha
    omega
  · rename_i ts
    have h30 : ¬ 30 < ts.length := of_decide_eq_false hd
    simp only [List.length_cons]
    omega
  · rename_i vid
    have h7 : vid.length ≤ 7 := of_decide_eq_true ha
    simp only [List.length_cons]
    omega

theorem encode_err_len {c : Ctx} {dst : B} {e : Enc} {buf : Bytes} {u : Unit} {m : Nat}
    (h : encode c dst e buf = .err u) (hd : documentedInvalid e = false) (ha : argsOk e = true)
    (hm : messageLen c.respEid e = some m) : 250 < m := by
  rw [RefineEnc.encode_err_iff_ref] at h
  rw [← messageLen_lib ha hm]
  rcases RefineEnc.refEncode_cases c.address c.respEid dst e with ⟨hd', -⟩ | ⟨-, -, hr⟩ | ⟨-, -, hr⟩ | ⟨-, -, -, hr⟩
  · rw [hd] at hd'; cases hd'
  · rw [hr] at h; cases h
  · rw [hr] at h; cases h
  · rw [hr] at h
    split at h
    · assumption
    · cases h

/-- a panic: never on a documented-invalid argument; with arguments of the documented shapes and outside
the three stubs (for which the judge knows no length), the message fits the frame but not the buffer -/
theorem encode_panic_inv {c : Ctx} {dst : B} {e : Enc} {buf : Bytes} {p : Panic}
    (h : encode c dst e buf = .panic p) :
    documentedInvalid e = false ∧
      (argsOk e = true → ∀ m, messageLen c.respEid e = some m → m ≤ 250 ∧ buf.length < m + 9) := by
  have hc := encode_cases c dst e buf
  rw [RefineEnc.encodeBytes_eq_ref, h] at hc
  rcases RefineEnc.refEncode_cases c.address c.respEid dst e with ⟨-, hr⟩ | ⟨hd, hs, -⟩ | ⟨hd, hv, -⟩ | ⟨hd, -, -, hr⟩
  · rw [hr] at hc; cases hc
  · -- a stub: the judge knows no length
    refine ⟨hd, fun _ m hm => ?_⟩
    unfold Enc.isStub at hs
    split at hs <;> first | cases hm | cases hs
  · -- a vendor ID field of more than 7 bytes: outside the documented shapes
    refine ⟨hd, fun ha => ?_⟩
    obtain ⟨cc, sel, vid, rfl, h7⟩ := hv
    have := of_decide_eq_true ha
    omega
  · refine ⟨hd, fun ha m hm => ?_⟩
    rw [← messageLen_lib ha hm]
    by_cases hbig : 250 < (libMessage c.respEid e).length
    · rw [hr, if_pos hbig] at hc; cases hc
    · rw [hr, if_neg hbig] at hc
      simp only [frame_length] at hc
      by_cases hfit : (libMessage c.respEid e).length + 9 ≤ buf.length
      · rw [if_pos hfit] at hc; cases hc
      · omega

end JSE
end Mctp
