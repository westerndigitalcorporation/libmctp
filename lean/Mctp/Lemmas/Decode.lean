/-
The decoder in normal form: `decode p = Spec.refDecode p` for every byte string, a flat chain of tests on
the specification's byte predicates.  Everything the properties and the request processor need of the
decoder is read off that chain.
-/
import Mctp.Model.Decode
import Mctp.Spec.Ref
import Mctp.Lemmas.Headers
import Mctp.Lemmas.Crc
import Mctp.Props.C19
namespace Mctp

theorem pecOk_eq (p : Bytes) (h : p ≠ []) :
    Spec.pecOk p = (byteAt p (p.length - 1) == calcPec p) := by
  unfold Spec.pecOk calcPec byteAt
  rw [crc8_eq_spec, List.dropLast_eq_take, List.getLast?_eq_getElem?]
  have : p.length - 1 < p.length := Nat.sub_one_lt (mt List.length_eq_zero_iff.mp h)
  simp [List.getElem?_eq_getElem this]

theorem bodyMsgType_eq (p : Bytes) : bodyMsgType p = MsgType.ofByte (byteAt p 8 &&& 0x7F#8) := by
  unfold bodyMsgType
  rw [msgType_get, byteAt_cons_zero]; simp

theorem msgTypeOf_eq (p : Bytes) : Spec.msgTypeOf p = MsgType.ofByte (byteAt p 8 &&& 0x7F#8) := rfl

/-- `get_smbus_headers` runs the two validators of C18 on bytes 4 and 8 -/
theorem getHeaders_eq (p : Bytes) :
    getHeaders p =
      if p.length < 10 then .err (.invalid, .unknown)
      else if Spec.hdrOk p then .ok () else .err (.invalid, .unknown) := by
  have h1 : ∀ a : B, ((a &&& 0xF0#8) == 0x00#8 && (a &&& 0x0F#8) == 1#8) = (a == 0x01#8) := by
    apply forall_byte; decide +kernel
  unfold getHeaders Spec.hdrOk Spec.typeBits
  rw [C18.transport_from_buf, C18.body_from_buf, byteAt_slice p 4 8 0 (by omega), h1, byteAt_cons_zero, Bool.and_assoc]
  generalize (byteAt p 4 == 0x01#8) = t
  generalize ((byteAt p 8 &&& 0x80#8) == 0x00#8 && _) = b
  cases t <;> cases b <;> rfl

theorem ccOf_zero : ccOf 0x00#8 = .ok .success := by decide

theorem ctrlSelect_eq (cp : Bytes) :
    ctrlSelect cp =
      if (byteAt cp 0).msb then (reqDataLen (byteAt cp 1)).map fun n => (2, true, n)
      else if cp.length < 4 then .err (.control, .ctl .len)
      else if byteAt cp 2 ≠ 0x00#8 then (ccOf (byteAt cp 2)).bind fun c => .err (.control, .ctl (.cc c))
      else (respDataLen (byteAt cp 1)).map fun n => (3, false, n) := by
  unfold ctrlSelect
  have e1 : byteAt [byteAt cp 0, byteAt cp 1] 1 = byteAt cp 1 := rfl
  simp only [ctrl_rq_get, ctrl_cmd_get, byteAt_cons_zero, e1]
  by_cases hm : (byteAt cp 0).msb = true
  · simp only [hm, if_true]
  · simp only [hm, Bool.false_eq_true, if_false, Nat.zero_ne_one, if_true]
    by_cases h4 : cp.length < 4
    · simp only [h4, if_true]
    · simp only [h4, if_false]
      by_cases h2 : byteAt cp 2 = 0x00#8
      · simp only [h2, ne_eq, not_true, if_false, ccOf_zero, Out.bind_ok]
      · simp only [h2, ne_eq, not_false_eq_true, if_true]

/-- the tail of `get_mctp_control_packet` after the length table was consulted -/
def ctrlFin (p : Bytes) (pec : B) (off : Nat) (isReq : Bool) (n : Nat) : Out DErr Ctrl :=
  if byteAt p (p.length - 1) ≠ pec then .err (.control, .ctl .pec)
  else if n > 0 ∧ p.length - 10 - off ≠ n then .err (.control, .ctl .len)
  else .ok ⟨Spec.cmdOf p, isReq, off, p.length - 10 - off⟩

theorem isRequest_eq_msb (p : Bytes) : Spec.isRequest p = (byteAt p 9).msb := by
  unfold Spec.isRequest
  generalize byteAt p 9 = b
  revert b; apply forall_byte; decide +kernel

theorem getCtrl_drop9 (p : Bytes) (pec : B) (h : 10 ≤ p.length) :
    getCtrl (p.drop 9) pec =
      if p.length < 12 then .err (.control, .ctl .len)
      else if Spec.isRequest p then (reqDataLen (Spec.cmdOf p)).bind (ctrlFin p pec 2 true)
      else if p.length < 13 then .err (.control, .ctl .len)
      else if Spec.ccByte p ≠ 0x00#8 then (ccOf (Spec.ccByte p)).bind fun c => .err (.control, .ctl (.cc c))
      else (respDataLen (Spec.cmdOf p)).bind (ctrlFin p pec 3 false) := by
  have e1 : 9 + (p.length - 9 - 1) = p.length - 1 := by omega
  have e3 : (p.length - 9 < 3) = (p.length < 12) := propext (by omega)
  have e4 : (p.length - 9 < 4) = (p.length < 13) := propext (by omega)
  unfold getCtrl
  rw [ctrlSelect_eq]
  -- the continuation goes into every branch of the selection
  simp only [byteAt_drop, List.length_drop, ctrl_cmd_get, isRequest_eq_msb, Spec.cmdOf, Spec.ccByte, e1, e3, e4,
    Out.bind_ite, Out.bind_map, Out.bind_assoc]
  rfl

theorem msgTypeOf_of_isControl (p : Bytes) (h : Spec.isControl p = true) : Spec.msgTypeOf p = .control := by
  unfold Spec.isControl at h; unfold Spec.msgTypeOf
  simp only [beq_iff_eq] at h; simp [h]

/-- the type bits behind the control type (`C19.msg_value`) -/
theorem isControl_of_msgTypeOf {p : Bytes} (h : Spec.msgTypeOf p = .control) : Spec.isControl p = true := by
  rw [msgTypeOf_eq] at h
  have := C19.msg_value _ (by rw [h]; decide)
  rw [h] at this
  simp [Spec.isControl, Spec.typeBits, ← this, MsgType.toByte]

theorem hdrOk_msgType (p : Bytes) (h : Spec.hdrOk p = true) : Spec.msgTypeOf p ≠ .invalid := by
  unfold Spec.hdrOk at h; unfold Spec.msgTypeOf
  generalize Spec.typeBits p = t at *
  simp only [Bool.and_eq_true, Bool.or_eq_true, beq_iff_eq] at h
  rcases h.2 with (((h|h)|h)|h)|h <;> subst h <;> decide

theorem decode_nf (p : Bytes) :
    decode p =
      if p.length < 10 then .err (.invalid, .unknown)
      else if !Spec.hdrOk p then .err (.invalid, .unknown)
      else if Spec.isControl p then
        (getCtrl (p.drop 9) (calcPec p)).bind fun c => .ok (.control, 9 + c.off, c.dataLen)
      else vendorArm p (calcPec p) (Spec.msgTypeOf p) := by
  unfold decode
  rw [getHeaders_eq, bodyMsgType_eq, ← msgTypeOf_eq]
  by_cases h10 : p.length < 10
  · rw [if_pos h10, if_pos h10]; rfl
  rw [if_neg h10, if_neg h10]
  cases hh : Spec.hdrOk p
  · rfl
  cases hc : Spec.isControl p
  · -- one of the four other supported types
    have h1 := hdrOk_msgType p hh
    have h2 : Spec.msgTypeOf p ≠ .control := fun hm => by rw [isControl_of_msgTypeOf hm] at hc; cases hc
    cases hm : Spec.msgTypeOf p <;> first | exact absurd hm h1 | exact absurd hm h2 | rfl
  · rw [msgTypeOf_of_isControl p hc]; rfl

theorem ctrlFin_ne_panic (p : Bytes) (pec : B) (off : Nat) (r : Bool) (n : Nat) (k : Panic) :
    ctrlFin p pec off r n ≠ .panic k := by
  unfold ctrlFin; repeat' split
  all_goals simp

theorem ctrlFin_ok {p : Bytes} {pec : B} {off n : Nat} {r : Bool} {ctl : Ctrl} (h : ctrlFin p pec off r n = .ok ctl) :
    ctl.cmd = Spec.cmdOf p ∧ ctl.isReq = r ∧ ctl.off = off := by
  unfold ctrlFin at h
  by_cases h1 : byteAt p (p.length - 1) ≠ pec
  · rw [if_pos h1] at h; cases h
  by_cases h2 : n > 0 ∧ p.length - 10 - off ≠ n
  · rw [if_neg h1, if_pos h2] at h; cases h
  rw [if_neg h1, if_neg h2] at h; cases h
  exact ⟨rfl, rfl, rfl⟩

/-- a code at or above `k` converts to no command below `k`: a command converts back to the code it came
from (`C19.cmd_value`) -/
theorem cmd_ge {cmd : B} {k : Nat} {c : Cmd} (h : k ≤ cmd.toNat) (hc : Cmd.ofByte cmd = c) :
    c = .unknown ∨ k ≤ c.toByte.toNat := by
  subst hc
  by_cases hu : Cmd.ofByte cmd = .unknown
  · exact .inl hu
  · rw [C19.cmd_value cmd hu]
    exact .inr h

/- The rows of the two length tables lie below 9 and 10: from there on every command falls to the default
arm, and only the rows below are compared by evaluation (the kernel does not evaluate the conclusion of a
row whose hypothesis fails; sweeping all 256 rows of one table costs five times as much to check). -/

theorem reqDataLen_eq : ∀ cmd : B, reqDataLen cmd =
    if Spec.reqUnimpl cmd then .panic ⟨.unimplemented, .traits⟩ else .ok ((Spec.reqFixed cmd).getD 0) := by
  intro cmd
  by_cases h : 9 ≤ cmd.toNat
  · rw [Spec.reqUnimpl, decide_eq_true h, if_pos rfl]
    unfold reqDataLen
    cases hc : Cmd.ofByte cmd <;> first | rfl | exact absurd (cmd_ge h hc) (by decide)
  · revert cmd
    apply forall_byte
    decide +kernel

theorem respDataLen_eq : ∀ cmd : B, respDataLen cmd =
    if Spec.respUnimpl cmd then .panic ⟨.unimplemented, .traits⟩ else .ok ((Spec.respFixedLib cmd).getD 0) := by
  intro cmd
  by_cases h : 10 ≤ cmd.toNat
  · rw [Spec.respUnimpl, decide_eq_true h, Bool.or_true, if_pos rfl]
    unfold respDataLen
    cases hc : Cmd.ofByte cmd <;> first | rfl | exact absurd (cmd_ge h hc) (by decide)
  · revert cmd
    apply forall_byte
    decide +kernel

theorem ccOf_eq : ∀ b : B, ccOf b =
    if 6 ≤ b.toNat then .panic ⟨.unreachable, .control⟩ else .ok (Spec.ccOfByte b) := by
  intro b
  by_cases h : 6 ≤ b.toNat
  · unfold ccOf
    rw [C19.cc_above_five_panics b h, if_pos h]
  · revert b
    apply forall_byte
    decide +kernel

theorem ccOfByte_toByte : ∀ b : B, b ≠ 0x00#8 → b.toNat < 6 →
    (Spec.ccOfByte b).toByte = b ∧ Spec.ccOfByte b ≠ .success := by
  apply forall_byte; decide +kernel

theorem ite_ne_some_zero {c : Prop} [Decidable c] {k : Nat} {o : Option Nat} (ho : o ≠ some 0) :
    (if c then some (k + 1) else o) ≠ some 0 := by
  split
  · exact fun h => Nat.succ_ne_zero k (Option.some.inj h)
  · exact ho

/-- no table entry is 0: a table value 0 ("not checked") means the specification fixes no length -/
theorem fixed_ne_zero (cmd : B) : Spec.reqFixed cmd ≠ some 0 ∧ Spec.respFixedLib cmd ≠ some 0 := by
  constructor <;> repeat' apply ite_ne_some_zero
  all_goals nofun

theorem lenFits_eq (o : Option Nat) (m : Nat) (h : o ≠ some 0) :
    Spec.lenFits o m = !decide (o.getD 0 > 0 ∧ m ≠ o.getD 0) := by
  cases o with
  | none => simp [Spec.lenFits]
  | some k =>
    have : k ≠ 0 := fun hk => h (by rw [hk])
    simp [Spec.lenFits, this, BEq.beq]

/-- the PEC and length checks after the table lookup, in specification terms -/
theorem ctrlFin_ref {p : Bytes} {off : Nat} {r : Bool} {o : Option Nat} (hne : p ≠ []) (ho : o ≠ some 0) :
    (ctrlFin p (calcPec p) off r (o.getD 0)).bind (fun c => (.ok (.control, 9 + c.off, c.dataLen) : Out DErr Dec)) =
      if !Spec.pecOk p then .err (.control, .ctl .pec)
      else if !Spec.lenFits o (p.length - 10 - off) then .err (.control, .ctl .len)
      else .ok (.control, 9 + off, p.length - 10 - off) := by
  rw [pecOk_eq p hne, lenFits_eq _ _ ho]
  unfold ctrlFin
  by_cases h1 : byteAt p (p.length - 1) = calcPec p
  · by_cases h2 : o.getD 0 > 0 ∧ p.length - 10 - off ≠ o.getD 0 <;> simp [h1, h2]
  · simp [h1]

theorem Refine.decode_eq_ref (p : Bytes) : decode p = Spec.refDecode p := by
  rw [decode_nf]
  unfold Spec.refDecode
  by_cases h10 : p.length < 10
  · rw [if_pos h10, if_pos h10]
  rw [if_neg h10, if_neg h10]
  have hne : p ≠ [] := by intro h; subst h; simp at h10
  cases hh : Spec.hdrOk p
  · rfl
  cases hc : Spec.isControl p
  · unfold vendorArm
    rw [pecOk_eq p hne]
    simp [Nat.sub_sub]
  -- a control message: the continuation goes into every branch, and each branch is the reference's
  rw [getCtrl_drop9 p _ (by omega)]
  simp only [Bool.not_true, Bool.false_eq_true, if_false, if_true, Out.bind_ite, Out.bind_ok, Out.bind_err,
    Out.bind_panic, reqDataLen_eq, respDataLen_eq, ccOf_eq, ctrlFin_ref hne (fixed_ne_zero _).1,
    ctrlFin_ref hne (fixed_ne_zero _).2, Nat.sub_sub]

open Spec in
/-- the five regions of the reference decoder: too short or bad header; not a control message; a control
message too short for its header; a control request; a control response -/
theorem refDecode_cases (p : Bytes) :
    ((p.length < 10 ∨ hdrOk p = false) ∧ refDecode p = .err (.invalid, .unknown)) ∨
    (10 ≤ p.length ∧ hdrOk p = true ∧ isControl p = false ∧
      refDecode p = if pecOk p then .ok (msgTypeOf p, 9, p.length - 10) else .err (msgTypeOf p, .ctl .pec)) ∨
    (10 ≤ p.length ∧ hdrOk p = true ∧ isControl p = true ∧ (p.length < 12 ∨ (isRequest p = false ∧ p.length < 13)) ∧
      refDecode p = .err (.control, .ctl .len)) ∨
    (12 ≤ p.length ∧ hdrOk p = true ∧ isControl p = true ∧ isRequest p = true ∧
      refDecode p =
        if reqUnimpl (cmdOf p) then .panic ⟨.unimplemented, .traits⟩
        else if !pecOk p then .err (.control, .ctl .pec)
        else if !lenFits (reqFixed (cmdOf p)) (p.length - 12) then .err (.control, .ctl .len)
        else .ok (.control, 11, p.length - 12)) ∨
    (13 ≤ p.length ∧ hdrOk p = true ∧ isControl p = true ∧ isRequest p = false ∧
      refDecode p =
        if ccByte p ≠ 0x00#8 then
          if 6 ≤ (ccByte p).toNat then .panic ⟨.unreachable, .control⟩
          else .err (.control, .ctl (.cc (ccOfByte (ccByte p))))
        else if respUnimpl (cmdOf p) then .panic ⟨.unimplemented, .traits⟩
        else if !pecOk p then .err (.control, .ctl .pec)
        else if !lenFits (respFixedLib (cmdOf p)) (p.length - 13) then .err (.control, .ctl .len)
        else .ok (.control, 12, p.length - 13)) := by
  unfold refDecode
  by_cases h10 : p.length < 10
  · exact .inl ⟨.inl h10, if_pos h10⟩
  rw [if_neg h10]
  cases hh : hdrOk p
  · exact .inl ⟨.inr rfl, rfl⟩
  cases hc : isControl p
  · exact .inr (.inl ⟨by omega, rfl, rfl, rfl⟩)
  by_cases h12 : p.length < 12
  · exact .inr (.inr (.inl ⟨by omega, rfl, rfl, .inl h12, if_pos h12⟩))
  cases hr : isRequest p
  · by_cases h13 : p.length < 13
    · refine .inr (.inr (.inl ⟨by omega, rfl, rfl, .inr ⟨rfl, h13⟩, ?_⟩))
      rw [if_neg h12]; exact if_pos h13
    · refine .inr (.inr (.inr (.inr ⟨by omega, rfl, rfl, rfl, ?_⟩)))
      rw [if_neg h12, if_neg h13]; rfl
  · refine .inr (.inr (.inr (.inl ⟨by omega, rfl, rfl, rfl, ?_⟩)))
    rw [if_neg h12]; rfl

/-- the tail the two control arms of the reference decoder share: no length-table entry (`u`), PEC (`k`),
length (`f`).  Regions four and five of `refDecode_cases` spell it out; being an `abbrev` it unfolds to them,
which is how `refTail_ok` / `_err` / `_panic` apply to hypotheses read off `refDecode_cases`. -/
abbrev refTail (u k f : Bool) (d : Dec) : Out DErr Dec :=
  if u then .panic ⟨.unimplemented, .traits⟩
  else if !k then .err (.control, .ctl .pec)
  else if !f then .err (.control, .ctl .len)
  else .ok d

theorem refTail_ok {u k f : Bool} {d r : Dec} :
    refTail u k f d = .ok r ↔ u = false ∧ k = true ∧ f = true ∧ d = r := by
  cases u <;> cases k <;> cases f <;> simp [refTail]

theorem refTail_err {u k f : Bool} {d : Dec} {t : MsgType} {e : DecErr} :
    refTail u k f d = .err (t, e) ↔
      u = false ∧ t = .control ∧ (k = false ∧ e = .ctl .pec ∨ k = true ∧ f = false ∧ e = .ctl .len) := by
  cases u <;> cases k <;> cases f <;> simp [refTail, eq_comm]

theorem refTail_panic {u k f : Bool} {d : Dec} {q : Panic} :
    refTail u k f d = .panic q ↔ u = true ∧ q = ⟨.unimplemented, .traits⟩ := by
  cases u <;> cases k <;> cases f <;> simp [refTail, eq_comm]

open Spec in
theorem decode_ok_inv {p : Bytes} {d : Dec} (h : decode p = .ok d) :
    hdrOk p = true ∧ pecOk p = true ∧
    ((isControl p = false ∧ 10 ≤ p.length ∧ d = (msgTypeOf p, 9, p.length - 10)) ∨
     (isControl p = true ∧ isRequest p = true ∧ 12 ≤ p.length ∧ reqUnimpl (cmdOf p) = false ∧
        lenFits (reqFixed (cmdOf p)) (p.length - 12) = true ∧ d = (.control, 11, p.length - 12)) ∨
     (isControl p = true ∧ isRequest p = false ∧ 13 ≤ p.length ∧ ccByte p = 0x00#8 ∧
        respUnimpl (cmdOf p) = false ∧ lenFits (respFixedLib (cmdOf p)) (p.length - 13) = true ∧
        d = (.control, 12, p.length - 13))) := by
  rw [Refine.decode_eq_ref] at h
  rcases refDecode_cases p with ⟨-, e⟩ | ⟨h10, hh, hc, e⟩ | ⟨-, -, -, -, e⟩ | ⟨h12, hh, hc, hr, e⟩ | ⟨h13, hh, hc, hr, e⟩ <;>
    rw [e] at h
  · cases h
  · cases hp : pecOk p <;> rw [hp] at h <;> cases h
    exact ⟨hh, rfl, .inl ⟨hc, h10, rfl⟩⟩
  · cases h
  · obtain ⟨hu, hp, hl, rfl⟩ := refTail_ok.mp h
    exact ⟨hh, hp, .inr (.inl ⟨hc, hr, h12, hu, hl, rfl⟩)⟩
  · by_cases hcc : ccByte p = 0x00#8
    · rw [if_neg (fun h => h hcc)] at h
      obtain ⟨hu, hp, hl, rfl⟩ := refTail_ok.mp h
      exact ⟨hh, hp, .inr (.inr ⟨hc, hr, h13, hcc, hu, hl, rfl⟩)⟩
    · rw [if_pos hcc] at h; split at h <;> cases h

open Spec in
/-- the four errors of the decoder, each with the condition it is raised under -/
theorem decode_err_inv {p : Bytes} {t : MsgType} {e : DecErr} (h : decode p = .err (t, e)) :
    (t = .invalid ∧ e = .unknown ∧ (p.length < 10 ∨ hdrOk p = false)) ∨
    (10 ≤ p.length ∧ hdrOk p = true ∧ t = msgTypeOf p ∧
      ((e = .ctl .pec ∧ pecOk p = false) ∨
       (e = .ctl .len ∧ isControl p = true ∧
         (p.length < 12 ∨ (isRequest p = false ∧ p.length < 13) ∨
          (isRequest p = true ∧ lenFits (reqFixed (cmdOf p)) (p.length - 12) = false) ∨
          (isRequest p = false ∧ lenFits (respFixedLib (cmdOf p)) (p.length - 13) = false))) ∨
       (e = .ctl (.cc (ccOfByte (ccByte p))) ∧ isControl p = true ∧ isRequest p = false ∧ 13 ≤ p.length ∧
          ccByte p ≠ 0x00#8 ∧ (ccByte p).toNat < 6))) := by
  rw [Refine.decode_eq_ref] at h
  have hm : isControl p = true → MsgType.control = msgTypeOf p := fun hc => (msgTypeOf_of_isControl p hc).symm
  rcases refDecode_cases p with ⟨h1, e'⟩ | ⟨h10, hh, hc, e'⟩ | ⟨h10, hh, hc, hs, e'⟩ | ⟨h12, hh, hc, hr, e'⟩ |
      ⟨h13, hh, hc, hr, e'⟩ <;>
    rw [e'] at h
  · cases h
    exact .inl ⟨rfl, rfl, h1⟩
  · cases hp : pecOk p <;> rw [hp] at h <;> cases h
    exact .inr ⟨h10, hh, rfl, .inl ⟨rfl, rfl⟩⟩
  · cases h
    exact .inr ⟨h10, hh, hm hc, .inr (.inl ⟨rfl, hc, hs.imp_right .inl⟩)⟩
  · obtain ⟨-, rfl, ⟨hp, rfl⟩ | ⟨-, hl, rfl⟩⟩ := refTail_err.mp h
    · exact .inr ⟨by omega, hh, hm hc, .inl ⟨rfl, hp⟩⟩
    · exact .inr ⟨by omega, hh, hm hc, .inr (.inl ⟨rfl, hc, .inr (.inr (.inl ⟨hr, hl⟩))⟩)⟩
  · by_cases hcc : ccByte p = 0x00#8
    · rw [if_neg (fun h => h hcc)] at h
      obtain ⟨-, rfl, ⟨hp, rfl⟩ | ⟨-, hl, rfl⟩⟩ := refTail_err.mp h
      · exact .inr ⟨by omega, hh, hm hc, .inl ⟨rfl, hp⟩⟩
      · exact .inr ⟨by omega, hh, hm hc, .inr (.inl ⟨rfl, hc, .inr (.inr (.inr ⟨hr, hl⟩))⟩)⟩
    · rw [if_pos hcc] at h
      by_cases h6 : 6 ≤ (ccByte p).toNat
      · rw [if_pos h6] at h; cases h
      · rw [if_neg h6] at h; cases h
        exact .inr ⟨by omega, hh, hm hc, .inr (.inr ⟨rfl, hc, hr, h13, hcc, by omega⟩)⟩

theorem Refine.ref_ok_pec (p : Bytes) (r : Dec) (h : Spec.refDecode p = .ok r) : Spec.pecOk p = true :=
  (decode_ok_inv ((Refine.decode_eq_ref p).trans h)).2.1

open Spec in
theorem Refine.ref_panic_iff (p : Bytes) (k : Panic) :
    Spec.refDecode p = .panic k ↔ Spec.decodePanicClass p = some k := by
  unfold decodePanicClass
  rcases refDecode_cases p with ⟨h, e⟩ | ⟨h10, hh, hc, e⟩ | ⟨h10, hh, hc, hs, e⟩ | ⟨h12, hh, hc, hr, e⟩ | ⟨h13, hh, hc, hr, e⟩ <;>
    rw [e]
  · rcases h with h | h
    · simp [Nat.not_le.mpr h]
    · simp [h]
  · rw [hc]
    cases pecOk p <;> simp
  · rcases hs with hs | ⟨hr, hs⟩
    · simp [Nat.not_le.mpr hs]
    · simp [hr, Nat.not_le.mpr hs]
  · have h10 : 10 ≤ p.length := by omega
    rw [refTail_panic]
    cases reqUnimpl (cmdOf p) <;> simp [hh, hc, hr, h10, h12, eq_comm]
  · have h10 : 10 ≤ p.length := by omega
    have h12 : 12 ≤ p.length := by omega
    simp only [hh, hc, hr, h10, h12, h13, decide_true, Bool.and_self, if_true, Bool.false_eq_true, if_false]
    by_cases hcc : ccByte p = 0x00#8
    · rw [if_neg (fun h => h hcc), refTail_panic, hcc]
      cases respUnimpl (cmdOf p) <;> simp [eq_comm]
    · rw [if_pos hcc]
      by_cases h6 : 6 ≤ (ccByte p).toNat <;> simp [hcc, h6]

end Mctp
