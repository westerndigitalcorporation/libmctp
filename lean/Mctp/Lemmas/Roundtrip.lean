/-
What the receive path does with the packets the transmit path writes: the decoder and the request
predicates on a frame, in terms of the framed message alone.
-/
import Mctp.Lemmas.Decode
import Mctp.Lemmas.Packet
import Mctp.Spec.State
namespace Mctp
open Spec

/-- the header of every frame is accepted; what remains of the header test is the type byte -/
theorem hdrOk_frame (a d t : B) (rest : Bytes) :
    hdrOk (frame a d (t :: rest)) =
      ((t &&& 0x80#8) == 0x00#8 && ((t &&& 0x7F#8) == 0x00#8 || (t &&& 0x7F#8) == 0x05#8 || (t &&& 0x7F#8) == 0x06#8 ||
        (t &&& 0x7F#8) == 0x7E#8 || (t &&& 0x7F#8) == 0x7F#8)) := by
  simp [hdrOk, typeBits, frame_cons, byteAt]

theorem decode_frame_vendor (a d : B) (t : MsgType) (rest : Bytes)
    (ht : t = .pci ∨ t = .iana ∨ t = .spdm ∨ t = .secured) :
    decode (frame a d ((t.toByte &&& 0x7F#8) :: rest)) = .ok (t, 9, rest.length) := by
  rw [Refine.decode_eq_ref]
  unfold refDecode
  rw [hdrOk_frame, pecOk_frame, frame_length]
  rcases ht with rfl | rfl | rfl | rfl <;>
    simp [isControl, msgTypeOf, typeBits, frame_cons, byteAt, MsgType.toByte]

theorem decode_frame_request (a d cmd : B) (data : Bytes) :
    decode (frame a d (0x00#8 :: 0x80#8 :: cmd :: data)) =
      if reqUnimpl cmd then .panic ⟨.unimplemented, .traits⟩
      else if !lenFits (reqFixed cmd) data.length then .err (.control, .ctl .len)
      else .ok (.control, 11, data.length) := by
  rw [Refine.decode_eq_ref]
  unfold refDecode
  rw [hdrOk_frame, pecOk_frame, frame_length]
  simp [isControl, isRequest, cmdOf, typeBits, frame_cons, byteAt]
  -- what is left are the length guards `< 10`, `< 12` of `refDecode`
  rw [if_neg (by omega), if_neg (by omega)]

theorem decode_frame_response (a d cmd cc : B) (rest : Bytes) :
    decode (frame a d (0x00#8 :: 0x00#8 :: cmd :: cc :: rest)) =
      if cc ≠ 0x00#8 then
        if 6 ≤ cc.toNat then .panic ⟨.unreachable, .control⟩ else .err (.control, .ctl (.cc (ccOfByte cc)))
      else if respUnimpl cmd then .panic ⟨.unimplemented, .traits⟩
      else if !lenFits (respFixedLib cmd) rest.length then .err (.control, .ctl .len)
      else .ok (.control, 12, rest.length) := by
  rw [Refine.decode_eq_ref]
  unfold refDecode
  rw [hdrOk_frame, pecOk_frame, frame_length]
  simp [isControl, isRequest, cmdOf, ccByte, typeBits, frame_cons, byteAt]
  -- the length guards `< 10`, `< 12`, `< 13`
  rw [if_neg (by omega), if_neg (by omega), if_neg (by omega)]

/-- a frame whose message ends in `pl` and decodes to `pl`, with the offsets counted back from the end of
the packet as C01 states them -/
theorem roundtrip_frame (a d : B) (pre pl : Bytes) (t : MsgType)
    (hd : decode (frame a d (pre ++ pl)) = .ok (t, 8 + pre.length, pl.length)) :
    decode (frame a d (pre ++ pl)) = .ok (t, (pre ++ pl).length + 9 - 1 - pl.length, pl.length) ∧
      sub (frame a d (pre ++ pl)) ((pre ++ pl).length + 9 - 1 - pl.length) ((pre ++ pl).length + 9 - 1) = pl ∧
      pl.length + 1 ≤ (pre ++ pl).length + 9 := by
  have e1 : (pre ++ pl).length + 9 - 1 - pl.length = 8 + pre.length := by rw [List.length_append]; omega
  rw [e1]
  exact ⟨hd, (sub_frame ..).trans (List.drop_left ..), by omega⟩

theorem isAcceptedRequest_frame (a d cmd : B) (data : Bytes) :
    isAcceptedRequest (frame a d (0x00#8 :: 0x80#8 :: cmd :: data)) = lenFits (reqFixed cmd) data.length := by
  unfold isAcceptedRequest accept
  rw [hdrOk_frame, pecOk_frame, frame_length]
  simp [isControl, isRequest, cmdOf, typeBits, frame_cons, byteAt]

end Mctp
