/-
The verdict algebra of the judge-soundness theorems: "not `fail`" through `chk`, `if` and `Verdict.and`,
and the specification state of a model context.
-/
import Mctp.Spec.Judge
namespace Mctp
namespace JudgeSound

def isFail : Spec.Verdict → Bool
  | .fail _ => true
  | _ => false

/-- the specification state that corresponds to a model context -/
def specOf (c : Ctx) : Spec.SpecSt := ⟨c.address, c.msgTypes, c.vendorIds, (c.reqEid, c.respEid), c.uuid⟩

theorem chk_ok {b : Bool} {w : String} (h : b = true) : Spec.chk b w = .ok := by
  subst h; rfl

theorem chk_beq {α : Type} [BEq α] [LawfulBEq α] {x y : α} {w : String} (h : x = y) : Spec.chk (x == y) w = .ok :=
  chk_ok (beq_iff_eq.mpr h)

theorem isFail_chk {b : Bool} {w : String} (h : b = true) : isFail (Spec.chk b w) = false := by
  rw [chk_ok h]; rfl

theorem isFail_chk_beq {α : Type} [BEq α] [LawfulBEq α] {x y : α} {w : String} (h : x = y) :
    isFail (Spec.chk (x == y) w) = false :=
  isFail_chk (beq_iff_eq.mpr h)

theorem isFail_ite {c : Prop} [Decidable c] {a b : Spec.Verdict} (ha : isFail a = false) (hb : isFail b = false) :
    isFail (if c then a else b) = false := by
  split <;> assumption

theorem isFail_if_pos {c : Prop} [Decidable c] {a b : Spec.Verdict} (hc : c) (ha : isFail a = false) :
    isFail (if c then a else b) = false := by
  rw [if_pos hc]; exact ha

theorem isFail_if_neg {c : Prop} [Decidable c] {a b : Spec.Verdict} (hc : ¬ c) (hb : isFail b = false) :
    isFail (if c then a else b) = false := by
  rw [if_neg hc]; exact hb

theorem isFail_and {a b : Spec.Verdict} (ha : isFail a = false) (hb : isFail b = false) :
    isFail (a.and b) = false := by
  cases a <;> cases b <;> first | rfl | exact ha | exact hb

end JudgeSound
end Mctp
