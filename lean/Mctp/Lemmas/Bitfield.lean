/-
The bit-field accessor loops (Model/Bitfield.lean) on buffers of any length.  A loop whose indices all
lie in one byte touches only that byte (`setLoop_local`, `getLoop_local`); over a contiguous bit range
`[lo, lo+w)` of the byte it has a closed form in `&&&`, `|||`, `<<<` (`byteSetLoop_range`,
`byteGetLoop_range`, and for a field `Field.get_range`, `Field.set_range`); a multi-byte big-endian field
is a concatenation of whole-byte loops (`getLoop_byte`, `setLoop_byte`).
-/
import Mctp.Model.Bitfield
import Mctp.Model.Views
namespace Mctp

theorem testBit_byte_range (z : B) (lo w j : Nat) :
    (z.toNat / 2 ^ lo % 2 ^ w).testBit j = (decide (j < w) && z.getLsbD (lo + j)) := by
  rw [Nat.testBit_mod_two_pow, Nat.testBit_div_two_pow, BitVec.getLsbD, Nat.add_comm]

theorem getLsbD_byte_update (x : B) (c lo w i : Nat) (h : lo + w ≤ 8) :
    ((x &&& ~~~(BitVec.ofNat 8 (2 ^ w - 1) <<< lo)) ||| (BitVec.ofNat 8 (c % 2 ^ w) <<< lo)).getLsbD i =
      if lo ≤ i ∧ i < lo + w then c.testBit (i - lo) else x.getLsbD i := by
  by_cases h8 : i < 8
  · simp only [BitVec.getLsbD_or, BitVec.getLsbD_and, BitVec.getLsbD_not, BitVec.getLsbD_shiftLeft,
      BitVec.getLsbD_ofNat, Nat.testBit_two_pow_sub_one, Nat.testBit_mod_two_pow, h8, decide_true, Bool.true_and]
    by_cases h1 : i < lo
    · have : ¬ (lo ≤ i ∧ i < lo + w) := by omega
      simp [h1, this]
    · by_cases h2 : i < lo + w
      · have h3 : i - lo < w := by omega
        have h4 : i - lo < 8 := by omega
        have : lo ≤ i ∧ i < lo + w := by omega
        simp [h1, h3, h4, this]
      · have h3 : ¬ i - lo < w := by omega
        have : ¬ (lo ≤ i ∧ i < lo + w) := by omega
        simp [h1, h3, this]
  · have : ¬ (lo ≤ i ∧ i < lo + w) := by omega
    rw [BitVec.getLsbD_of_ge _ _ (by omega), BitVec.getLsbD_of_ge x _ (by omega)]
    simp [this]

theorem byte_update_same {x : B} {c lo w : Nat} (h : lo + w ≤ 8) :
    ((x &&& ~~~(BitVec.ofNat 8 (2 ^ w - 1) <<< lo)) ||| (BitVec.ofNat 8 (c % 2 ^ w) <<< lo)).toNat / 2 ^ lo % 2 ^ w
      = c % 2 ^ w := by
  apply Nat.eq_of_testBit_eq
  intro j
  rw [testBit_byte_range, getLsbD_byte_update _ _ _ _ _ h, Nat.testBit_mod_two_pow]
  by_cases hj : j < w
  · have : lo ≤ lo + j ∧ lo + j < lo + w := by omega
    simp [hj, this]
  · simp [hj]

theorem byte_update_other {x : B} {c lo w lo' w' : Nat} (h : lo + w ≤ 8) (hd : lo + w ≤ lo' ∨ lo' + w' ≤ lo) :
    ((x &&& ~~~(BitVec.ofNat 8 (2 ^ w - 1) <<< lo)) ||| (BitVec.ofNat 8 (c % 2 ^ w) <<< lo)).toNat / 2 ^ lo' % 2 ^ w'
      = x.toNat / 2 ^ lo' % 2 ^ w' := by
  apply Nat.eq_of_testBit_eq
  intro j
  rw [testBit_byte_range, testBit_byte_range, getLsbD_byte_update _ _ _ _ _ h]
  by_cases hj : j < w'
  · have : ¬ (lo ≤ lo' + j ∧ lo' + j < lo + w) := by omega
    simp [this]
  · simp [hj]

/-- `putBit` is the one-bit case of the range update -/
theorem putBit_getLsbD (b : B) (pos : Nat) (v : Bool) (j : Nat) (hp : pos < 8) :
    (putBit b pos v).getLsbD j = if j = pos then v else b.getLsbD j := by
  have hv : (if v then 1#8 else 0#8) = BitVec.ofNat 8 ((if v then 1 else 0) % 2 ^ 1) := by cases v <;> rfl
  rw [putBit, hv, getLsbD_byte_update b _ pos 1 j hp]
  by_cases hj : j = pos
  · subst hj
    rw [if_pos ⟨Nat.le_refl _, Nat.lt_succ_self _⟩, if_pos rfl, Nat.sub_self]
    cases v <;> rfl
  · rw [if_neg hj, if_neg (by omega)]

theorem setBit_length (buf : Bytes) (k pos v) : (setBit buf k pos v).length = buf.length := by
  simp [setBit]

theorem setLoop_length (posOf) : ∀ (is : List Nat) (st : Bytes × Nat), (setLoop posOf is st).1.length = st.1.length
  | [], st => rfl
  | i :: is, (buf, v) => by simp [setLoop, setLoop_length posOf is, setBit_length]

/-- setter loop restricted to one byte -/
def byteSetLoop (posOf : Nat → Nat) : List Nat → B × Nat → B × Nat
  | [], st => st
  | i :: is, (b, v) => byteSetLoop posOf is (putBit b (posOf i) (v % 2 == 1), v / 2)

/-- getter loop restricted to one byte -/
def byteGetLoop (posOf : Nat → Nat) (b : B) : List Nat → Nat → Nat
  | [], acc => acc
  | i :: is, acc => byteGetLoop posOf b is (2 * acc + (if b.getLsbD (posOf i) then 1 else 0))

theorem setLoop_append (posOf) : ∀ (is js : List Nat) (st : Bytes × Nat),
    setLoop posOf (is ++ js) st = setLoop posOf js (setLoop posOf is st)
  | [], js, st => rfl
  | i :: is, js, (buf, v) => by simp only [List.cons_append, setLoop]; exact setLoop_append posOf is js _

theorem setLoop_mod {posOf} {is : List Nat} : ∀ {n : Nat} {buf : Bytes} {v : Nat}, is.length ≤ n →
    (setLoop posOf is (buf, v % 2 ^ n)).1 = (setLoop posOf is (buf, v)).1 := by
  induction is with
  | nil => intro n buf v _; rfl
  | cons i is ih =>
    intro n buf v h
    cases n with
    | zero => simp at h
    | succ n =>
      rw [setLoop, setLoop, Nat.pow_succ', Nat.mod_mul_right_mod, Nat.mod_mul_right_div_self,
        ih (by simpa using h)]

theorem getLoop_append (posOf) (buf : Bytes) : ∀ (is js : List Nat) (acc : Nat),
    getLoop posOf buf (is ++ js) acc = getLoop posOf buf js (getLoop posOf buf is acc)
  | [], js, acc => rfl
  | i :: is, js, acc => by simp only [List.cons_append, getLoop]; exact getLoop_append posOf buf is js _

theorem getLoop_local (posOf) (buf : Bytes) (k : Nat) : ∀ (is : List Nat) (acc : Nat),
    (∀ i ∈ is, i / 8 = k) → getLoop posOf buf is acc = byteGetLoop posOf (buf.getD k 0) is acc
  | [], acc, _ => rfl
  | i :: is, acc, h => by
    have hi : i / 8 = k := h i (by simp)
    rw [getLoop, byteGetLoop, getBit, hi,
      getLoop_local posOf buf k is _ (fun j hj => h j (by simp [hj]))]

theorem setLoop_local (posOf) (k : Nat) (is : List Nat) : ∀ (buf : Bytes) (v : Nat),
    k < buf.length → (∀ i ∈ is, i / 8 = k) →
    setLoop posOf is (buf, v) =
      (buf.set k (byteSetLoop posOf is (buf.getD k 0, v)).1, (byteSetLoop posOf is (buf.getD k 0, v)).2) := by
  induction is with
  | nil =>
    intro buf v hk _
    simp [setLoop, byteSetLoop, List.getD_eq_getElem?_getD, hk]
  | cons i is ih =>
    intro buf v hk h
    have hi := h i (by simp)
    rw [setLoop, byteSetLoop, hi, ih _ _ (by simpa [setBit_length] using hk) (fun j hj => h j (by simp [hj]))]
    simp [setBit, List.getD_eq_getElem?_getD, hk]

theorem byteSetLoop_snd (posOf) : ∀ (is : List Nat) (b : B) (v : Nat),
    (byteSetLoop posOf is (b, v)).2 = v / 2 ^ is.length
  | [], b, v => by simp [byteSetLoop]
  | i :: is, b, v => by
    rw [byteSetLoop, byteSetLoop_snd posOf is, List.length_cons, Nat.pow_succ', Nat.div_div_eq_div_mul]

theorem idxUp_byte (msb lsb k : Nat) (hl : lsb / 8 = k) (hm : msb / 8 = k) : ∀ i ∈ idxUp msb lsb, i / 8 = k := by
  intro i hi
  simp only [idxUp, List.mem_range'_1] at hi
  have h2 : i ≤ msb := by omega
  exact Nat.le_antisymm (hm ▸ Nat.div_le_div_right h2) (hl ▸ Nat.div_le_div_right hi.1)

theorem idxDown_byte (msb lsb k : Nat) (hl : lsb / 8 = k) (hm : msb / 8 = k) : ∀ i ∈ idxDown msb lsb, i / 8 = k := by
  intro i hi
  exact idxUp_byte msb lsb k hl hm i (by simpa [idxDown] using hi)

/-- the setter takes its value modulo `2 ^ valBits` (the width of the Rust value type) -/
theorem Field.set_mod {f : Field} {buf : Bytes} {v : Nat} {n : Nat} (h : f.valBits ≤ n) :
    f.set buf (v % 2 ^ n) = f.set buf v := by
  unfold Field.set
  rw [Nat.mod_mod_of_dvd v (Nat.pow_dvd_pow 2 h)]

theorem Field.set_length (f : Field) (buf : Bytes) (v : Nat) : (f.set buf v).length = buf.length := by
  unfold Field.set
  split <;> exact setLoop_length _ _ _

theorem getLsbD_byteSetLoop_range (posOf : Nat → Nat) (is : List Nat) : ∀ (lo w : Nat) (b : B) (v j : Nat),
    is.map posOf = List.range' lo w → lo + w ≤ 8 →
    (byteSetLoop posOf is (b, v)).1.getLsbD j =
      if lo ≤ j ∧ j < lo + w then v.testBit (j - lo) else b.getLsbD j := by
  induction is with
  | nil =>
    intro lo w b v j hm _
    have hw : w = 0 := by simpa using (congrArg List.length hm).symm
    subst hw
    have : ¬ (lo ≤ j ∧ j < lo + 0) := by omega
    rw [if_neg this]; rfl
  | cons i is ih =>
    intro lo w b v j hm h8
    cases w with
    | zero => simp at hm
    | succ w =>
      rw [List.range'_succ, List.map_cons, List.cons.injEq] at hm
      rw [byteSetLoop, ih (lo + 1) w _ _ j hm.2 (by omega), putBit_getLsbD _ _ _ _ (by omega), hm.1]
      by_cases h1 : j = lo
      · subst h1
        have : ¬ (j + 1 ≤ j ∧ j < j + 1 + w) := by omega
        simp [this, Nat.testBit_zero, BEq.beq]
      · by_cases h2 : lo + 1 ≤ j ∧ j < lo + 1 + w
        · have h3 : lo ≤ j ∧ j < lo + (w + 1) := by omega
          have h4 : j - lo = (j - (lo + 1)) + 1 := by omega
          rw [if_pos h2, if_pos h3, h4, Nat.testBit_succ]
        · have h3 : ¬ (lo ≤ j ∧ j < lo + (w + 1)) := by omega
          rw [if_neg h2, if_neg h3, if_neg h1]

theorem byteSetLoop_range (posOf : Nat → Nat) (is : List Nat) (lo w : Nat) (b : B) (v : Nat)
    (hm : is.map posOf = List.range' lo w) (h8 : lo + w ≤ 8) :
    (byteSetLoop posOf is (b, v)).1 =
      (b &&& ~~~(BitVec.ofNat 8 (2 ^ w - 1) <<< lo)) ||| (BitVec.ofNat 8 (v % 2 ^ w) <<< lo) := by
  apply BitVec.eq_of_getLsbD_eq
  intro j _
  rw [getLsbD_byteSetLoop_range posOf is lo w b v j hm h8, getLsbD_byte_update _ _ _ _ _ h8]

theorem byteGetLoop_range (posOf : Nat → Nat) (x : B) (is : List Nat) : ∀ (lo w acc : Nat),
    is.map posOf = (List.range' lo w).reverse →
    byteGetLoop posOf x is acc = acc * 2 ^ w + x.toNat / 2 ^ lo % 2 ^ w := by
  induction is with
  | nil =>
    intro lo w acc hm
    have hw : w = 0 := by simpa using (congrArg List.length hm).symm
    subst hw; simp [byteGetLoop, Nat.mod_one]
  | cons i is ih =>
    intro lo w acc hm
    cases w with
    | zero => simp at hm
    | succ w =>
      rw [List.range'_1_concat, List.reverse_append, List.reverse_singleton, List.singleton_append,
        List.map_cons, List.cons.injEq] at hm
      rw [byteGetLoop, ih lo w _ hm.2, hm.1, Nat.mod_pow_succ (k := w),
        Nat.div_div_eq_div_mul, ← Nat.pow_add, BitVec.getLsbD, Nat.pow_succ]
      have hb : (if x.toNat.testBit (lo + w) then 1 else 0) = x.toNat / 2 ^ (lo + w) % 2 := by
        rw [← Nat.toNat_testBit]; cases x.toNat.testBit (lo + w) <;> rfl
      rw [hb]
      generalize x.toNat / 2 ^ (lo + w) % 2 = c
      generalize x.toNat / 2 ^ lo % 2 ^ w = d
      generalize 2 ^ w = p
      -- (2 * acc + c) * p + d = acc * (p * 2) + (d + p * c), not linear in `acc * p`
      grind

/-- bit positions (inside the byte) visited by the setter of `f`, in loop order; the getter visits
them in the reverse order -/
def Field.setPos (f : Field) : List Nat :=
  if f.msb0 then (idxDown f.msb f.lsb).map posMsb0 else (idxUp f.msb f.lsb).map posLsb0

theorem Field.get_range (f : Field) (k lo w : Nat) (hl : f.lsb / 8 = k) (hm : f.msb / 8 = k)
    (hp : f.setPos = List.range' lo w) (buf : Bytes) :
    f.get buf = (byteAt buf k).toNat / 2 ^ lo % 2 ^ w := by
  have hw : f.msb + 1 - f.lsb = w := by
    have := congrArg List.length hp
    unfold Field.setPos at this
    split at this <;> simpa [idxDown, idxUp] using this
  unfold Field.setPos at hp
  unfold Field.get getMsb0 getLsb0 byteAt
  split
  · rename_i hb
    rw [if_pos hb] at hp
    rw [getLoop_local posMsb0 buf k _ _ (idxUp_byte _ _ k hl hm),
      byteGetLoop_range posMsb0 _ _ lo w 0 (by rw [← hp, idxDown, List.map_reverse, List.reverse_reverse]), hw]
    simp
  · rename_i hb
    rw [if_neg hb] at hp
    rw [getLoop_local posLsb0 buf k _ _ (idxDown_byte _ _ k hl hm),
      byteGetLoop_range posLsb0 _ _ lo w 0 (by rw [← hp, idxDown, List.map_reverse]), hw]
    simp

theorem Field.set_range (f : Field) (k lo w : Nat) (hl : f.lsb / 8 = k) (hm : f.msb / 8 = k)
    (hp : f.setPos = List.range' lo w) (h8 : lo + w ≤ 8) (hv : w ≤ f.valBits) (buf : Bytes) (v : Nat)
    (hk : k < buf.length) :
    f.set buf v = buf.set k ((byteAt buf k &&& ~~~(BitVec.ofNat 8 (2 ^ w - 1) <<< lo)) |||
      (BitVec.ofNat 8 (v % 2 ^ w) <<< lo)) := by
  have hmod : v % 2 ^ f.valBits % 2 ^ w = v % 2 ^ w := Nat.mod_mod_of_dvd _ (Nat.pow_dvd_pow 2 hv)
  unfold Field.setPos at hp
  unfold Field.set setMsb0 setLsb0 byteAt
  split
  · rename_i hb
    rw [if_pos hb] at hp
    rw [setLoop_local posMsb0 k _ buf _ hk (idxDown_byte _ _ k hl hm), byteSetLoop_range posMsb0 _ lo w _ _ hp h8, hmod]
  · rename_i hb
    rw [if_neg hb] at hp
    rw [setLoop_local posLsb0 k _ buf _ hk (idxUp_byte _ _ k hl hm), byteSetLoop_range posLsb0 _ lo w _ _ hp h8, hmod]

/-! ### the byte expressions the header closed forms are written in

`C18.set_layout` stores `BitVec.ofNat 8 (v % 2 ^ w) <<< lo` and `C18.get_layout` reads
`x.toNat / 2 ^ lo % 2 ^ w`; the statements about headers use masks, `msb` and whole bytes. -/

theorem ofNat_toNat_mod (d : B) (w : Nat) :
    BitVec.ofNat 8 (d.toNat % 2 ^ w) = d &&& BitVec.ofNat 8 (2 ^ w - 1) := by
  apply BitVec.eq_of_getLsbD_eq
  intro i hi
  rw [BitVec.getLsbD_and, BitVec.getLsbD_ofNat, BitVec.getLsbD_ofNat, Nat.testBit_mod_two_pow,
    Nat.testBit_two_pow_sub_one, BitVec.getLsbD, Bool.and_comm (decide (i < w))]
  simp [hi]

theorem toNat_low (x : B) (w : Nat) : x.toNat / 2 ^ 0 % 2 ^ w = (x &&& BitVec.ofNat 8 (2 ^ w - 1)).toNat := by
  rw [← ofNat_toNat_mod, BitVec.toNat_ofNat, Nat.pow_zero, Nat.div_one]
  exact (Nat.mod_eq_of_lt (Nat.lt_of_le_of_lt (Nat.mod_le _ _) x.isLt)).symm

theorem toNat_whole (x : B) : x.toNat / 2 ^ 0 % 2 ^ 8 = x.toNat := by
  rw [Nat.pow_zero, Nat.div_one]; exact Nat.mod_eq_of_lt x.isLt

theorem toNat_top (x : B) : x.toNat / 2 ^ 7 % 2 ^ 1 = if x.msb then 1 else 0 := by
  rw [BitVec.msb_eq_getLsbD_last, BitVec.getLsbD, ← Nat.toNat_testBit]
  cases x.toNat.testBit 7 <;> rfl

theorem and_255 (d : B) : d &&& 255#8 = d := BitVec.and_allOnes

/-- byte `s / 8` of a wider value, as the vendor-ID statements write it -/
theorem setWidth_ushiftRight {n : Nat} (x : BitVec n) (s : Nat) :
    (x >>> s).setWidth 8 = BitVec.ofNat 8 (x.toNat / 2 ^ s) := by
  rw [← BitVec.ofNat_toNat, BitVec.toNat_ushiftRight, Nat.shiftRight_eq_div_pow]

theorem ofNat8_congr {a b : Nat} (h : a % 256 = b % 256) : BitVec.ofNat 8 a = BitVec.ofNat 8 b :=
  BitVec.eq_of_toNat_eq (by simpa using h)

theorem getLoop_byte (posOf : Nat → Nat) (buf : Bytes) (is : List Nat) (k acc : Nat)
    (hk : ∀ i ∈ is, i / 8 = k) (hp : is.map posOf = (List.range' 0 8).reverse) :
    getLoop posOf buf is acc = acc * 256 + (byteAt buf k).toNat := by
  rw [getLoop_local posOf buf k is acc hk, byteGetLoop_range posOf _ is 0 8 acc hp, toNat_whole]
  rfl

theorem setLoop_byte (posOf : Nat → Nat) (is : List Nat) (k : Nat) (buf : Bytes) (v : Nat)
    (hk : ∀ i ∈ is, i / 8 = k) (hlen : k < buf.length) (hp : is.map posOf = List.range' 0 8) :
    setLoop posOf is (buf, v) = (buf.set k (BitVec.ofNat 8 v), v / 256) := by
  have hl : is.length = 8 := by simpa using congrArg List.length hp
  rw [setLoop_local posOf k is buf v hlen hk, byteSetLoop_snd, hl,
    byteSetLoop_range posOf is 0 8 _ v hp (by omega)]
  have h1 : ~~~(BitVec.ofNat 8 (2 ^ 8 - 1) <<< 0) = 0#8 := rfl
  rw [h1, BitVec.and_zero, BitVec.zero_or, BitVec.shiftLeft_zero, ofNat8_congr (Nat.mod_mod v 256)]

/-! Beside the closed forms, and used by none of them: the bit-level description of a setter loop over any
duplicate-free index list, over several bytes (`getBit_setLoop`), and the mask form of a single-byte
setter for any index list, contiguous or not (`Field.setByte_sep`). -/

theorem getBit_setBit (buf : Bytes) (k pos : Nat) (v : Bool) (k' pos' : Nat) (hk : k < buf.length) (hp : pos < 8) :
    getBit (setBit buf k pos v) k' pos' = if k' = k ∧ pos' = pos then v else getBit buf k' pos' := by
  unfold getBit setBit
  by_cases h : k' = k
  · subst h; simp [List.getD_eq_getElem?_getD, hk, putBit_getLsbD, hp]
  · simp [List.getD_eq_getElem?_getD, h, Ne.symm h]

/-- folding over a duplicate-free index list `is` writes bit `k` of `v` at index `is[k]` -/
theorem getBit_setLoop (posOf : Nat → Nat) (hpos : ∀ i, posOf i < 8)
    (inj : ∀ i j, i / 8 = j / 8 → posOf i = posOf j → i = j) :
    ∀ (is : List Nat) (buf : Bytes) (v : Nat) (j : Nat), is.Nodup → (∀ i ∈ is, i / 8 < buf.length) →
      getBit (setLoop posOf is (buf, v)).1 (j / 8) (posOf j) =
        if j ∈ is then v.testBit (is.idxOf j) else getBit buf (j / 8) (posOf j) := by
  intro is
  induction is with
  | nil => intro buf v j _ _; simp [setLoop]
  | cons i is ih =>
    intro buf v j hnd hlen
    have hnd' := (List.nodup_cons.mp hnd)
    have hi : i / 8 < buf.length := hlen i (by simp)
    rw [setLoop, ih _ _ j hnd'.2 (by intro k hk; rw [setBit_length]; exact hlen k (by simp [hk]))]
    by_cases hji : j = i
    · subst hji
      simp [hnd'.1, getBit_setBit, hi, hpos, Nat.testBit, List.idxOf_cons_self]
    · have hne : ¬ (j / 8 = i / 8 ∧ posOf j = posOf i) := fun h => hji (inj _ _ h.1 h.2)
      by_cases hmem : j ∈ is
      · have : List.idxOf j (i :: is) = List.idxOf j is + 1 := by
          have hb : (i == j) = false := by simpa using Ne.symm hji
          simp [List.idxOf_cons, hb]
        simp [hmem, hji, this, Nat.testBit_succ]
      · simp [hmem, hji, getBit_setBit, hi, hpos, hne]

/-- the bits a setter loop leaves untouched -/
def clrMask (posOf : Nat → Nat) : List Nat → B
  | [] => BitVec.allOnes 8
  | i :: is => ~~~(1#8 <<< posOf i) &&& clrMask posOf is

theorem putBit_sep (b m c : B) (pos : Nat) (v : Bool) :
    putBit ((b &&& m) ||| c) pos v = (b &&& (m &&& ~~~(1#8 <<< pos))) ||| putBit c pos v := by
  rw [putBit, putBit, BitVec.and_or_distrib_right, BitVec.and_assoc, BitVec.or_assoc]

/-- separation of variables: the old byte only contributes through the cleared mask -/
theorem byteSetLoop_sep (posOf) : ∀ (is : List Nat) (b m c : B) (v : Nat),
    (byteSetLoop posOf is ((b &&& m) ||| c, v)).1 =
      (b &&& (m &&& clrMask posOf is)) ||| (byteSetLoop posOf is (c, v)).1
  | [], b, m, c, v => by
    simp only [byteSetLoop, clrMask, BitVec.and_allOnes]
  | i :: is, b, m, c, v => by
    rw [byteSetLoop, putBit_sep, byteSetLoop_sep posOf is, byteSetLoop, clrMask, BitVec.and_assoc]

theorem byteSetLoop_zero (posOf) (is : List Nat) (b : B) (v : Nat) :
    (byteSetLoop posOf is (b, v)).1 = (b &&& clrMask posOf is) ||| (byteSetLoop posOf is (0#8, v)).1 := by
  have h := byteSetLoop_sep posOf is b (BitVec.allOnes 8) 0#8 v
  rw [BitVec.and_allOnes, BitVec.or_zero, BitVec.allOnes_and] at h; exact h

theorem byteSetLoop_mod (posOf) : ∀ (is : List Nat) (n : Nat) (b : B) (v : Nat), is.length ≤ n →
    (byteSetLoop posOf is (b, v % 2 ^ n)).1 = (byteSetLoop posOf is (b, v)).1 := by
  intro is
  induction is with
  | nil => intro n b v _; rfl
  | cons i is ih =>
    intro n b v h
    cases n with
    | zero => simp at h
    | succ n =>
      rw [byteSetLoop, byteSetLoop, Nat.pow_succ', Nat.mod_mul_right_mod, Nat.mod_mul_right_div_self,
        ih n _ _ (by simpa using h)]

theorem byteGetLoop_acc (posOf) (b : B) : ∀ (is : List Nat) (acc : Nat),
    byteGetLoop posOf b is acc = 2 ^ is.length * acc + byteGetLoop posOf b is 0
  | [], acc => by simp [byteGetLoop]
  | i :: is, acc => by
    rw [byteGetLoop, byteGetLoop, byteGetLoop_acc posOf b is (2 * acc + _),
      byteGetLoop_acc posOf b is (2 * 0 + _), List.length_cons, Nat.pow_succ]
    grind

/-- what a single-byte setter stores into its byte -/
def Field.setByte (f : Field) (x : B) (v : Nat) : B :=
  if f.msb0 then (byteSetLoop posMsb0 (idxDown f.msb f.lsb) (x, v % 2 ^ f.valBits)).1
  else (byteSetLoop posLsb0 (idxUp f.msb f.lsb) (x, v % 2 ^ f.valBits)).1

/-- the bits of its byte a single-byte setter keeps -/
def Field.keepMask (f : Field) : B :=
  if f.msb0 then clrMask posMsb0 (idxDown f.msb f.lsb) else clrMask posLsb0 (idxUp f.msb f.lsb)

theorem Field.setByte_sep (f : Field) (x : B) (v : Nat) :
    f.setByte x v = (x &&& f.keepMask) ||| f.setByte 0#8 v := by
  unfold Field.setByte Field.keepMask
  split <;> exact byteSetLoop_zero _ _ _ _

namespace EncAux

theorem setLoop_append (posOf : Nat → Nat) : ∀ (is js : List Nat) (st : Bytes × Nat),
    setLoop posOf (is ++ js) st = setLoop posOf js (setLoop posOf is st) :=
  Mctp.setLoop_append posOf

end EncAux

end Mctp
