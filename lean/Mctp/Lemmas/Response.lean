/-
A control response at the front of a response buffer: it is a frame (`respPkt_eq_frame`), it satisfies every
clause of `Spec.respondsTo` for the request it answers, and the clauses the properties read off the buffer.
-/
import Mctp.Lemmas.Packet
import Mctp.Spec.Judge
namespace Mctp
namespace Proc
open Spec

/-- a control response before its PEC: the eight header bytes, `Rq=0 D=0 instance 0`, command, data.  This is
`framePre` of that message written out; `Refine.answered` and `JudgeSound.written` are stated with it. -/
def respPre (a d cmdb : B) (data : Bytes) : Bytes :=
  (d &&& 0x7F#8) <<< 1 :: 0x0F#8 :: BitVec.ofNat 8 (8 + data.length) :: (((a &&& 0x7F#8) <<< 1) ||| 1#8) ::
    0x01#8 :: d :: a :: 0xC8#8 :: 0x00#8 :: 0x00#8 :: cmdb :: data

def respPkt (a d cmdb : B) (data : Bytes) : Bytes := respPre a d cmdb data ++ [crc8 (respPre a d cmdb data)]

theorem respPkt_eq_frame (a d cmdb : B) (data : Bytes) :
    respPkt a d cmdb data = frame a d (0x00#8 :: 0x00#8 :: cmdb :: data) := by
  have e : 8 + data.length = (0x00#8 :: 0x00#8 :: cmdb :: data).length + 5 := by simp only [List.length_cons]; omega
  unfold respPkt respPre
  rw [crc8_eq_spec, e]
  rfl

theorem respondsTo_frame (a : B) (p : Bytes) (cc : B) (rest : Bytes) (h : rest.length ≤ 246) :
    respondsTo a p (frame a (byteAt p 6) (0x00#8 :: 0x00#8 :: byteAt p 10 :: cc :: rest)) (13 + rest.length) = true := by
  unfold respondsTo
  rw [← resp_frame_length a (byteAt p 6) (byteAt p 10) cc rest, frame_length,
    frameOk_frame _ _ _ (by simp only [List.length_cons]; omega), pecOk_frame, crc_frame, frame_cons]
  -- the reads at fixed offsets by the cons lemmas alone: plain `simp` discharges a bound per read through `getElem?`
  simp only [byteAt, List.getD_cons_succ, List.getD_cons_zero, List.cons_append, beq_self_eq_true]
  simp

/-- what C04, C03 and C05 check on a response at the front of a buffer `b`: the leading clauses of
`respondsTo` -/
theorem respondsTo_wire {a : B} {p b : Bytes} {n : Nat} (h : respondsTo a p (b.take n) n = true) :
    frameOk a (byteAt p 6) (b.take n) n = true ∧
      (pecOk (b.take n) && crc (b.take n) == 0x00#8) = true ∧
      (decide (9 ≤ n) && byteAt b 4 == 0x01#8 && byteAt b 5 == byteAt p 6 && byteAt b 6 == a &&
        (byteAt b 7 &&& 0xF0#8) == 0xC0#8 && byteAt b 8 == 0x00#8) = true := by
  simp only [respondsTo, Bool.and_eq_true, decide_eq_true_eq] at h ⊢
  obtain ⟨⟨⟨⟨⟨⟨⟨⟨⟨⟨hf, hp⟩, hc⟩, h13⟩, h4⟩, h5⟩, h6⟩, h7⟩, h8⟩, -⟩, -⟩ := h
  have hn : 13 ≤ n := Nat.le_trans h13 (List.length_take_le n b)
  rw [byteAt_take _ _ _ (by omega)] at h4 h5 h6 h7 h8
  exact ⟨hf, ⟨hp, hc⟩, ⟨⟨⟨⟨⟨by omega, h4⟩, h5⟩, h6⟩, h7⟩, h8⟩⟩

theorem response_clauses (a : B) (p : Bytes) (cc : B) (rest tail : Bytes) (h : rest.length ≤ 246) :
    respBody (frame a (byteAt p 6) (0x00#8 :: 0x00#8 :: byteAt p 10 :: cc :: rest) ++ tail) (13 + rest.length) =
        0x00#8 :: byteAt p 10 :: cc :: rest ∧
      respondsTo a p ((frame a (byteAt p 6) (0x00#8 :: 0x00#8 :: byteAt p 10 :: cc :: rest) ++ tail).take
        (13 + rest.length)) (13 + rest.length) = true ∧
      (frame a (byteAt p 6) (0x00#8 :: 0x00#8 :: byteAt p 10 :: cc :: rest) ++ tail).drop (13 + rest.length) = tail := by
  refine ⟨?_, ?_, drop_resp_frame ..⟩
  · rw [respBody, take_resp_frame, show 13 + rest.length - 1 = 12 + rest.length by omega]
    have := sub_resp_frame a (byteAt p 6) (byteAt p 10) cc rest [] 1
    rwa [List.append_nil] at this
  · rw [take_resp_frame]; exact respondsTo_frame a p cc rest h

end Proc
end Mctp
