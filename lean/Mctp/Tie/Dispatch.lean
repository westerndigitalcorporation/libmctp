/-
The tie by translation, part 8: the dispatch of `process_packet` on the request's command.  From the
MIR of `process_packet` the translator takes the one `switchInt` over the discriminant of a
`CommandCode` that has an arm for every variant, and records for each variant what only that arm does
(the blocks reachable from it and from no other arm): the response encoders it calls
(`respond:<method>`), whether it stores an EID (`store-eid:request` / `store-eid:response`) and the
panics it contains (`panic:unimplemented`, `panic:unreachable`).

The statements below are what C13, C11 / C12 and C10 need from that dispatch, in a form that a
refactoring cannot break by moving code into helpers (tokens may disappear, they must not appear in the
wrong arm):
* `stores_only_in_set_eid` - no arm other than Set Endpoint ID stores an EID (C13: "nothing else changes it");
* `responds_with_own_encoder` - an arm that calls a response encoder calls the encoder of its own command
  and no other (C11 / C12: the response has the request's command code);
* `panics_only_in_known_arms` - `unimplemented!()` / `unreachable!()` occur only in the arms the known
  finding D11 names (C10): command 0, Set Endpoint ID (operations 2 and >= 4), Get Vendor Defined
  Message Support (`unreachable!()` on a vendor format other than 0 / 1, excluded by the valid-configuration
  hypothesis), Resolve / Allocate and the commands without a handler.
The model side of the same facts: `C13.frame`, `C11.requests_answered`, `C12.answer_partial`,
`C10.process_panic_iff`.
-/
import Mctp.Gen.Source
namespace Mctp.Tie

/-- the response encoder a command's arm may call -/
def ownEncoder : Gen.CommandCode → Option String
  | .SetEndpointID => some "respond:set_endpoint_id"
  | .GetEndpointID => some "respond:get_endpoint_id"
  | .GetEndpointUUID => some "respond:get_endpoint_uuid"
  | .GetMCTPVersionSupport => some "respond:get_mctp_version_support"
  | .GetMessageTypeSupport => some "respond:get_message_type_suport"
  | .GetVendorDefinedMessageSupport => some "respond:get_vendor_defined_message_support"
  | _ => none

def respondTokens : List String :=
  ["respond:set_endpoint_id", "respond:get_endpoint_id", "respond:get_endpoint_uuid",
   "respond:get_mctp_version_support", "respond:get_message_type_suport",
   "respond:get_vendor_defined_message_support"]

/-- the six commands the responder answers: their arms must not contain `unimplemented!()`, and only
Set Endpoint ID and Get Vendor Defined Message Support may contain `unreachable!()` -/
def mayPanic (v : Gen.CommandCode) (t : String) : Bool :=
  match v with
  | .GetEndpointID | .GetEndpointUUID | .GetMCTPVersionSupport | .GetMessageTypeSupport => false
  | .GetVendorDefinedMessageSupport => t == "panic:unreachable"
  | _ => true

theorem stores_only_in_set_eid :
    Gen.processDispatch.all (fun (v, ts) =>
      (!ts.contains "store-eid:request" && !ts.contains "store-eid:response") || v == .SetEndpointID) = true := by
  decide +kernel

theorem responds_with_own_encoder :
    Gen.processDispatch.all (fun (v, ts) =>
      ts.all fun t => !respondTokens.contains t || ownEncoder v == some t) = true := by
  decide +kernel

theorem panics_only_in_known_arms :
    Gen.processDispatch.all (fun (v, ts) =>
      ts.all fun t => !(t == "panic:unimplemented" || t == "panic:unreachable" || t == "panic:other") || mayPanic v t) = true := by
  decide +kernel

/-- every variant has an arm (the dispatch the translator found is total) -/
theorem dispatch_total : Gen.processDispatch.map (·.1) = Gen.CommandCode.all := by decide +kernel

end Mctp.Tie
