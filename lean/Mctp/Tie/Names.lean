/-
The tie by translation, part 1a: the three code-point enums of the crate, as regenerated from the
`const E::V::{constant#0}` items of the MIR dump of /repo's working tree, against the model's `Cmd`,
`MsgType`, `CC`: same variants (by NAME - the maps `genOf*` pair each model constructor with the Rust
variant of the same name and are checked to be bijections) with the same numeric values, so that a
consistent renumbering of two variants does not slip through.  No translated function is run here.
-/
import Mctp.Gen.Source
import Mctp.Model.Enums
namespace Mctp.Tie

theorem forall_byte (P : B → Prop) (h : ∀ i : Fin 256, P (BitVec.ofFin i)) : ∀ b, P b :=
  fun b => h b.toFin

def genOfCmd : Cmd → Gen.CommandCode
  | .reserved => .Reserved | .setEndpointID => .SetEndpointID | .getEndpointID => .GetEndpointID
  | .getEndpointUUID => .GetEndpointUUID | .getMCTPVersionSupport => .GetMCTPVersionSupport
  | .getMessageTypeSupport => .GetMessageTypeSupport
  | .getVendorDefinedMessageSupport => .GetVendorDefinedMessageSupport
  | .resolveEndpointID => .ResolveEndpointID | .allocateEndpointIDs => .AllocateEndpointIDs
  | .routingInformationUpdate => .RoutingInformationUpdate
  | .getRoutingTableEntries => .GetRoutingTableEntries
  | .prepareForEndpointDiscovery => .PrepareForEndpointDiscovery
  | .endpointDiscovery => .EndpointDiscovery | .discoveryNotify => .DiscoveryNotify
  | .getNetworkID => .GetNetworkID | .queryHop => .QueryHop | .resolveUUID => .ResolveUUID
  | .queryRateLimit => .QueryRateLimit | .requestTXRateLimit => .RequestTXRateLimit
  | .updateRateLimit => .UpdateRateLimit | .querySupportedInterfaces => .QuerySupportedInterfaces
  | .unknown => .Unknown

def cmdOfGen : Gen.CommandCode → Cmd
  | .Reserved => .reserved | .SetEndpointID => .setEndpointID | .GetEndpointID => .getEndpointID
  | .GetEndpointUUID => .getEndpointUUID | .GetMCTPVersionSupport => .getMCTPVersionSupport
  | .GetMessageTypeSupport => .getMessageTypeSupport
  | .GetVendorDefinedMessageSupport => .getVendorDefinedMessageSupport
  | .ResolveEndpointID => .resolveEndpointID | .AllocateEndpointIDs => .allocateEndpointIDs
  | .RoutingInformationUpdate => .routingInformationUpdate
  | .GetRoutingTableEntries => .getRoutingTableEntries
  | .PrepareForEndpointDiscovery => .prepareForEndpointDiscovery
  | .EndpointDiscovery => .endpointDiscovery | .DiscoveryNotify => .discoveryNotify
  | .GetNetworkID => .getNetworkID | .QueryHop => .queryHop | .ResolveUUID => .resolveUUID
  | .QueryRateLimit => .queryRateLimit | .RequestTXRateLimit => .requestTXRateLimit
  | .UpdateRateLimit => .updateRateLimit | .QuerySupportedInterfaces => .querySupportedInterfaces
  | .Unknown => .unknown

/-- the Rust enum has exactly the model's variants (no variant added, removed or renamed) -/
theorem cmd_variants : (∀ c, cmdOfGen (genOfCmd c) = c) ∧ (∀ g, genOfCmd (cmdOfGen g) = g) :=
  ⟨fun c => by cases c <;> rfl, fun g => by cases g <;> rfl⟩

/-- `variant as u8` in the code = `Cmd.toByte` in the model -/
theorem cmd_discr (c : Cmd) : (genOfCmd c).discr = c.toByte.toNat := by cases c <;> rfl

def genOfMsg : MsgType → Gen.MessageType
  | .control => .MCtpControl | .spdm => .SpdmOverMctp | .secured => .SecuredMessages
  | .pci => .VendorDefinedPCI | .iana => .VendorDefinedIANA | .invalid => .Invalid

def msgOfGen : Gen.MessageType → MsgType
  | .MCtpControl => .control | .SpdmOverMctp => .spdm | .SecuredMessages => .secured
  | .VendorDefinedPCI => .pci | .VendorDefinedIANA => .iana | .Invalid => .invalid

theorem msg_variants : (∀ c, msgOfGen (genOfMsg c) = c) ∧ (∀ g, genOfMsg (msgOfGen g) = g) :=
  ⟨fun c => by cases c <;> rfl, fun g => by cases g <;> rfl⟩

theorem msg_discr (c : MsgType) : (genOfMsg c).discr = c.toByte.toNat := by cases c <;> rfl

def genOfCC : CC → Gen.CompletionCode
  | .success => .Success | .error => .Error | .errorInvalidData => .ErrorInvalidData
  | .errorInvalidLength => .ErrorInvalidLength | .errorNotReady => .ErrorNotReady
  | .errorUnsupportedCmd => .ErrorUnsupportedCmd

def ccOfGen : Gen.CompletionCode → CC
  | .Success => .success | .Error => .error | .ErrorInvalidData => .errorInvalidData
  | .ErrorInvalidLength => .errorInvalidLength | .ErrorNotReady => .errorNotReady
  | .ErrorUnsupportedCmd => .errorUnsupportedCmd

theorem cc_variants : (∀ c, ccOfGen (genOfCC c) = c) ∧ (∀ g, genOfCC (ccOfGen g) = g) :=
  ⟨fun c => by cases c <;> rfl, fun g => by cases g <;> rfl⟩

theorem cc_discr (c : CC) : (genOfCC c).discr = c.toByte.toNat := by cases c <;> rfl

end Mctp.Tie
