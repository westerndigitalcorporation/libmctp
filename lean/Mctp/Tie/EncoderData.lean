/-
The tie by translation, part 7: the message data of the 18 request encoders that write it as one array
literal (all but `routing_information_update`, `resolve_uuid` and `vendor_defined`).  From each method's
MIR the translator resolves the array handed to `generate_control_packet_bytes` back to the method's
parameters (following moves, reborrows, the unsizing coercion and `discriminant … as u8` casts; any
second assignment, indexed write or `&mut` borrow of the array makes the method "skipped").
`encoder_data` says every resolved layout is the entry of `dataTable` for that method; `model_data` says that the model's encoders (`Enc.body`)
emit exactly those parameters, in that order, and nothing else - the parameter clause of C06.
-/
import Mctp.Tie.Encoders
import Mctp.Mir.Data
namespace Mctp.Tie
open Mctp.Mir

/-- the command's own arguments of a modelled call, in the order of the Rust method's parameters
(`_3`, `_4`, …; enum arguments as their `as u8` value, which is how the model takes them) -/
def callArgs : Enc → List B
  | .reqSetEid op e => [op, e]
  | .reqVersion q => [q]
  | .reqVendor s => [s]
  | .reqResolveEid e => [e]
  | .reqAllocate op n f => [op, n, f]
  | .reqGetRouting h => [h]
  | .reqQueryHop e t => [e, t]
  | _ => []

/-- MIR local `_i` is entry `i - 3` of `callArgs` (`Mir/Data.lean`: `_1` is `self`, `_2` the destination) -/
def evalElem (as : List B) : DataElem → B
  | .param i => as.getD (i - 3) 0
  | .enumU8 i => as.getD (i - 3) 0
  | .const v => BitVec.ofNat 8 v

def dataTable : List (String × List DataElem) :=
  [("smbus_request::set_endpoint_id", [.enumU8 3, .param 4]),
   ("smbus_request::get_endpoint_id", []),
   ("smbus_request::get_endpoint_uuid", []),
   ("smbus_request::get_mctp_version_support", [.enumU8 3]),
   ("smbus_request::get_message_type_suport", []),
   ("smbus_request::get_vendor_defined_message_support", [.param 3]),
   ("smbus_request::resolve_endpoint_id", [.param 3]),
   ("smbus_request::allocate_endpoint_ids", [.enumU8 3, .param 4, .param 5]),
   ("smbus_request::get_routing_table_entries", [.param 3]),
   ("smbus_request::prepare_for_endpoint_discovery", []),
   ("smbus_request::endpoint_discovery", []),
   ("smbus_request::discovery_notify", []),
   ("smbus_request::get_network_id", []),
   ("smbus_request::query_hop", [.param 3, .enumU8 4]),
   ("smbus_request::query_rate_limit", []),
   ("smbus_request::request_tx_rate_limit", []),
   ("smbus_request::update_rate_limmit", []),
   ("smbus_request::query_supported_interfaces", [])]

/-- every message-data layout the translator could resolve from the MIR of a request encoder is the
table's entry for that method.  (Methods it cannot resolve are listed in `Gen.encoderDataSkipped` and in
the evidence, and are tied by the correspondence run only; on the pinned tree 18 are resolved and
`routing_information_update`, `resolve_uuid`, `vendor_defined` are skipped.) -/
theorem encoder_data : Gen.encoderData.all (fun x => dataTable.contains x) = true := by decide +kernel

/-- the model's encoders emit exactly the table's elements, evaluated on the call's arguments -/
theorem model_data (c : Ctx) (e : Enc) (t : MsgType) (h : Option Bytes) (d : Bytes) (n : String)
    (l : List DataElem) (hb : e.body c = .ok (t, h, d)) (hn : rustName e = some n)
    (hl : (n, l) ∈ dataTable) : d = l.map (evalElem (callArgs e)) := by
  cases e <;> first | (cases hn; done) | skip
  all_goals (cases hn; enc_body_inv hb)
  all_goals (simp [dataTable] at hl)
  all_goals (subst hl; rfl)

end Mctp.Tie
