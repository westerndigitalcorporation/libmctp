/-
The tie by translation, part 4: the crate's integer constants and the `as u8` values of the enums
that encoder arguments are drawn from, against the places where the model uses them.
-/
import Mctp.Gen.Source
import Mctp.Lemmas.Headers
import Mctp.Props.C17
namespace Mctp.Tie

/-- `MCTP_SMBUS_MAX_BODY_LEN` is the model's `maxBodyLen` (C04 / C16: the refusal threshold) -/
theorem max_body_len : Gen.MCTP_SMBUS_MAX_BODY_LEN = maxBodyLen := rfl

/-- `HDR_VERSION` is the version every modelled transport header carries (C05) -/
theorem hdr_version (a d : B) : byteAt (transportHeader a d) 0 = BitVec.ofNat 8 Gen.HDR_VERSION := by
  rw [transportHeader_eq]; rfl

/-- `MCTP_SMBUS_COMMAND_CODE` is the command byte every modelled SMBus header carries (C04) and the one
the modelled length probe compares with (C17) -/
theorem smbus_command_code (a d : B) :
    byteAt (smbusHeader a d) 1 = BitVec.ofNat 8 Gen.MCTP_SMBUS_COMMAND_CODE := by
  rw [smbusHeader_eq]; rfl

theorem probe_command_code (p : Bytes) (n : Nat) (h : getLength p = .ok n) :
    (byteAt p 1).toNat = Gen.MCTP_SMBUS_COMMAND_CODE := by
  rw [C17.spec] at h
  split at h
  · cases h
  · split at h
    · rename_i hb; rw [hb]; rfl
    · cases h

/-! ### the numeric values of the argument enums (`variant as u8`), in declaration order -/

theorem set_eid_operations : Gen.MCTPSetEndpointIDOperations.all.map (·.discr) = ArgEnum.setEidOp := rfl
theorem version_query : Gen.MCTPVersionQuery.all.map (·.discr) = ArgEnum.versionQuery := rfl
theorem allocate_operation : Gen.AllocateEndpointIDOperation.all.map (·.discr) = ArgEnum.allocOp := rfl
theorem message_type_values : Gen.MessageType.all.map (·.discr) = ArgEnum.msgType := rfl
theorem completion_code_values : Gen.CompletionCode.all.map (·.discr) = ArgEnum.completionCode := rfl
theorem assignment_status : Gen.MCTPSetEndpointIDAssignmentStatus.all.map (·.discr) = ArgEnum.assignStatus := rfl
theorem allocation_status : Gen.MCTPSetEndpointIDAllocationStatus.all.map (·.discr) = ArgEnum.allocStatus := rfl
theorem endpoint_type : Gen.MCTPGetEndpointIDEndpointType.all.map (·.discr) = ArgEnum.endpointType := rfl
theorem endpoint_id_type : Gen.MCTPGetEndpointIDEndpointIDType.all.map (·.discr) = ArgEnum.endpointIdType := rfl
theorem routing_entry_type : Gen.RoutingInformationUpdateEntryType.all.map (·.discr) = ArgEnum.routingEntryType := rfl

/-- the crate declares these field-less enums and no other -/
theorem enums : Gen.enumNames =
    ["AllocateEndpointIDOperation", "CommandCode", "CompletionCode", "MCTPGetEndpointIDEndpointIDType",
     "MCTPGetEndpointIDEndpointType", "MCTPSetEndpointIDAllocationStatus", "MCTPSetEndpointIDAssignmentStatus",
     "MCTPSetEndpointIDOperations", "MCTPVersionQuery", "MessageType", "RoutingInformationUpdateEntryType"] := rfl

end Mctp.Tie
