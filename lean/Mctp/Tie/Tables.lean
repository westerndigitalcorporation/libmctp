/-
The tie by translation, part 2: the two expected-data-length tables of `mctp_traits.rs`
(`get_request_data_len`, `get_response_data_len`), translated from MIR, against the model's
`reqDataLen` / `respDataLen` - including which commands hit `unimplemented!()`.
-/
import Mctp.Tie.Names
import Mctp.Lemmas.Decode
namespace Mctp.Tie
open Mctp.Mir

/-- the model's outcome as a MIR result -/
def resOfLen : Out DErr Nat → Res
  | .ok n => .ret n
  | .panic ⟨.unimplemented, _⟩ => .panic .unimplemented
  | _ => .stuck

theorem req_len : ∀ b : B,
    run Gen.prog Gen.idx_get_request_data_len [b.toNat] = resOfLen (reqDataLen b) := by
  apply forall_byte; decide +kernel

theorem resp_len : ∀ b : B,
    run Gen.prog Gen.idx_get_response_data_len [b.toNat] = resOfLen (respDataLen b) := by
  apply forall_byte; decide +kernel

/-- non-vacuity: neither side is stuck anywhere, and both values and panics occur -/
example : run Gen.prog Gen.idx_get_request_data_len [1] = .ret 2 ∧
    run Gen.prog Gen.idx_get_request_data_len [0x0F] = .panic .unimplemented ∧
    run Gen.prog Gen.idx_get_response_data_len [3] = .ret 16 := by decide +kernel

theorem len_never_stuck : ∀ b : B,
    run Gen.prog Gen.idx_get_request_data_len [b.toNat] ≠ .stuck ∧
    run Gen.prog Gen.idx_get_response_data_len [b.toNat] ≠ .stuck := by
  intro b
  rw [req_len, resp_len, reqDataLen_eq, respDataLen_eq]
  constructor <;> split <;> simp [resOfLen]

end Mctp.Tie
