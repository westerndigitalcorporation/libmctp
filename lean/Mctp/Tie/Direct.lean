/-
The tie by translation, part 5: property statements about the TRANSLATED code itself, measured against
the L2 specification tables - the hand-written model does not appear in these statements.  They are what
C19 (code points) and the length clauses of C09 / C10 say, for the functions `rustc` compiled from
/repo's working tree; what is trusted for them is the translator and `Mir/Sem.lean` only.
-/
import Mctp.Tie.Tables
import Mctp.Tie.Enums
import Mctp.Mir.Meta
import Mctp.Props.C19
namespace Mctp.Tie
open Mctp.Mir

/-! ### C19, on the translated conversions -/

/-- every byte of DSP0236 table 12 converts to the variant of that name, every other byte to `Unknown` -/
theorem cmd_code_points : ∀ b : B,
    run Gen.prog Gen.idx_from_CommandCode [b.toNat] =
      .ret (match C19.cmdTable.lookup b with
            | some c => (genOfCmd c).discr
            | none => Gen.CommandCode.Unknown.discr) := by
  intro b
  rw [cmd_from, C19.cmd_table]
  cases C19.cmdTable.lookup b <;> rfl

/-- the conversion inverts `variant as u8` on every defined variant -/
theorem cmd_inverts (g : Gen.CommandCode) (h : g ≠ .Unknown) :
    run Gen.prog Gen.idx_from_CommandCode [g.discr] = .ret g.discr := by
  cases g <;> first | (exact absurd rfl h) | decide +kernel

theorem msg_code_points : ∀ b : B,
    run Gen.prog Gen.idx_from_MessageType [b.toNat] =
      .ret (match C19.msgTable.lookup b with
            | some c => (genOfMsg c).discr
            | none => Gen.MessageType.Invalid.discr) := by
  intro b
  rw [msg_from, C19.msg_table]
  cases C19.msgTable.lookup b <;> rfl

theorem msg_inverts (g : Gen.MessageType) (h : g ≠ .Invalid) :
    run Gen.prog Gen.idx_from_MessageType [g.discr] = .ret g.discr := by
  cases g <;> first | (exact absurd rfl h) | decide +kernel

/-- completion codes 0-5 convert to their own variants; anything above is `unreachable!()` (finding D10) -/
theorem cc_code_points : ∀ b : B,
    run Gen.prog Gen.idx_from_CompletionCode [b.toNat] =
      (match C19.ccTable.lookup b with
       | some c => .ret (genOfCC c).discr
       | none => .panic .unreachable) := by
  intro b
  rw [cc_from, C19.cc_lookup]
  cases C19.ccTable.lookup b <;> rfl

theorem cc_inverts (g : Gen.CompletionCode) :
    run Gen.prog Gen.idx_from_CompletionCode [g.discr] = .ret g.discr := by
  cases g <;> decide +kernel

/-! ### the expected-length tables, against the acceptance predicate of C09 and the panic classes of C10 -/

/-- request commands: exactly the commands from 0x09 up hit `unimplemented!()` (finding D3); every other
command has the fixed length the specification's acceptance predicate uses (0 = any length) -/
theorem req_len_spec : ∀ b : B,
    run Gen.prog Gen.idx_get_request_data_len [b.toNat] =
      if Spec.reqUnimpl b then .panic .unimplemented else .ret ((Spec.reqFixed b).getD 0) := by
  intro b
  rw [req_len, reqDataLen_eq]
  split <;> rfl

/-- response commands: `unimplemented!()` exactly on the class of finding D3; otherwise, outside the three
commands C09 excludes (0x02, 0x08, 0x09), the fixed length of the acceptance predicate -/
theorem resp_len_spec : ∀ b : B,
    run Gen.prog Gen.idx_get_response_data_len [b.toNat] =
      if Spec.respUnimpl b then .panic .unimplemented
      else if b = 0x02#8 then .ret 4          -- finding D2: the encoder writes 3
      else if b = 0x08#8 then .ret 4
      else if b = 0x09#8 then .ret 1
      else .ret ((Spec.respFixed b).getD 0) := by
  intro b
  rw [resp_len, respDataLen_eq]
  unfold Spec.respFixedLib
  repeat' split
  all_goals rfl

/-! ### the fuel bound in these statements is not part of their meaning (`Mir/Meta.lean`) -/

theorem cmd_code_points_any_fuel (b : B) (k : Nat) :
    run Gen.prog Gen.idx_from_CommandCode [b.toNat] (64 + k) =
      .ret (match C19.cmdTable.lookup b with
            | some c => (genOfCmd c).discr
            | none => Gen.CommandCode.Unknown.discr) :=
  run_fuel_mono _ _ _ 64 k _ (cmd_code_points b) (by simp)

theorem req_len_spec_any_fuel (b : B) (k : Nat) :
    run Gen.prog Gen.idx_get_request_data_len [b.toNat] (64 + k) =
      if Spec.reqUnimpl b then .panic .unimplemented else .ret ((Spec.reqFixed b).getD 0) :=
  run_fuel_mono _ _ _ 64 k _ (req_len_spec b) (by split <;> simp)

end Mctp.Tie
