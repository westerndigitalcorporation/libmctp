/-
The tie by translation, part 1b: the three `From<u8>` conversions, translated from MIR, run by the
interpreter of `Mir/Sem.lean`, against the hand-written model (`Model/Enums.lean`): the same variant for
every one of the 256 bytes (and the same `unreachable!()` above completion code 5).
-/
import Mctp.Tie.Names
namespace Mctp.Tie
open Mctp.Mir

theorem cmd_from : ∀ b : B,
    run Gen.prog Gen.idx_from_CommandCode [b.toNat] = .ret (genOfCmd (Cmd.ofByte b)).discr := by
  apply forall_byte; decide +kernel

theorem msg_from : ∀ b : B,
    run Gen.prog Gen.idx_from_MessageType [b.toNat] = .ret (genOfMsg (MsgType.ofByte b)).discr := by
  apply forall_byte; decide +kernel

/-- what the model's `CC.ofByte` outcome looks like as a MIR result -/
def resOfCC : Out Unit CC → Res
  | .ok c => .ret (genOfCC c).discr
  | .panic ⟨.unreachable, _⟩ => .panic .unreachable
  | _ => .stuck

theorem cc_from : ∀ b : B,
    run Gen.prog Gen.idx_from_CompletionCode [b.toNat] = resOfCC (CC.ofByte b) := by
  apply forall_byte; decide +kernel

end Mctp.Tie
