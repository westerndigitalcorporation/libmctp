/-
L1 model, common definitions: bytes, the three-way outcome of a Rust call
(value / error value / panic), and small list helpers that mirror Rust slice
operations.  Imports nothing outside core so that the driver links natively.
-/
namespace Mctp

abbrev B := BitVec 8
abbrev Bytes := List B

/-- What kind of Rust panic a model function stands for. -/
inductive PanicKind
  | indexOOB | sliceRange | unimplemented | unreachable | addOverflow | subOverflow
  | unwrapErr | copyLen | explicit
  deriving DecidableEq, Repr, Inhabited

/-- Source file of /repo/src in which the panicking construct lives. -/
inductive SrcFile
  | smbus | traits | control | proto | base | request | response | vendor
  deriving DecidableEq, Repr, Inhabited

structure Panic where
  kind : PanicKind
  file : SrcFile
  deriving DecidableEq, Repr, Inhabited

/-- Outcome of a modelled Rust call returning `Result<α, ε>`: `ok`, `err`, or a panic. -/
inductive Out (ε α : Type) where
  | ok (a : α)
  | err (e : ε)
  | panic (p : Panic)
  deriving DecidableEq, Repr

namespace Out

@[inline] def bind {ε α β : Type} (x : Out ε α) (f : α → Out ε β) : Out ε β :=
  match x with
  | .ok a => f a
  | .err e => .err e
  | .panic p => .panic p

@[inline] def map {ε α β : Type} (f : α → β) (x : Out ε α) : Out ε β :=
  match x with
  | .ok a => .ok (f a)
  | .err e => .err e
  | .panic p => .panic p

def isOk {ε α : Type} : Out ε α → Bool
  | .ok _ => true
  | _ => false

def isPanic {ε α : Type} : Out ε α → Bool
  | .panic _ => true
  | _ => false

@[simp] theorem bind_ok {ε α β : Type} (a : α) (f : α → Out ε β) : (Out.ok a).bind f = f a := rfl
@[simp] theorem bind_err {ε α β : Type} (e : ε) (f : α → Out ε β) :
    (Out.err e : Out ε α).bind f = .err e := rfl
@[simp] theorem bind_panic {ε α β : Type} (p : Panic) (f : α → Out ε β) :
    (Out.panic p : Out ε α).bind f = .panic p := rfl

theorem bind_eq_ok {ε α β : Type} {x : Out ε α} {f : α → Out ε β} {r : β} :
    x.bind f = .ok r ↔ ∃ a, x = .ok a ∧ f a = .ok r := by
  cases x <;> simp [bind]

theorem bind_eq_err {ε α β : Type} {x : Out ε α} {f : α → Out ε β} {e : ε} :
    x.bind f = .err e ↔ x = .err e ∨ ∃ a, x = .ok a ∧ f a = .err e := by
  cases x <;> simp [bind]

theorem bind_eq_panic {ε α β : Type} {x : Out ε α} {f : α → Out ε β} {p : Panic} :
    x.bind f = .panic p ↔ x = .panic p ∨ ∃ a, x = .ok a ∧ f a = .panic p := by
  cases x <;> simp [bind]

theorem bind_map {ε α β γ : Type} (x : Out ε α) (f : α → β) (g : β → Out ε γ) :
    (x.map f).bind g = x.bind fun a => g (f a) := by
  cases x <;> rfl

theorem bind_assoc {ε α β γ : Type} (x : Out ε α) (f : α → Out ε β) (g : β → Out ε γ) :
    (x.bind f).bind g = x.bind fun a => (f a).bind g := by
  cases x <;> rfl

theorem bind_ite {ε α β : Type} (c : Prop) [Decidable c] (x y : Out ε α) (f : α → Out ε β) :
    (if c then x else y).bind f = if c then x.bind f else y.bind f := by
  split <;> rfl

end Out

/-- Byte `i` of a slice, `0` when out of range (only used where the range was checked). -/
@[inline] def byteAt (p : Bytes) (i : Nat) : B := p.getD i 0

/-- `&p[a..b]` for `a ≤ b ≤ p.len()`. -/
@[inline] def slice (p : Bytes) (a b : Nat) : Bytes := (p.take b).drop a

/-- `buf[off..off+src.len()].copy_from_slice(src)` when it is in range. -/
def splice (buf : Bytes) (off : Nat) (src : Bytes) : Bytes :=
  buf.take off ++ src ++ buf.drop (off + src.length)

theorem forall_byte (P : B → Prop) (h : ∀ i : Fin 256, P (BitVec.ofFin i)) : ∀ b, P b :=
  fun b => h b.toFin

theorem byteAt_cons_zero (x : B) (xs : Bytes) : byteAt (x :: xs) 0 = x := rfl

theorem byteAt_take (p : Bytes) (n i : Nat) (h : i < n) : byteAt (p.take n) i = byteAt p i := by
  simp [byteAt, List.getD_eq_getElem?_getD, h]

theorem byteAt_drop (p : Bytes) (n i : Nat) : byteAt (p.drop n) i = byteAt p (n + i) := by
  simp [byteAt, List.getD_eq_getElem?_getD]

theorem byteAt_slice (p : Bytes) (a b i : Nat) (h : a + i < b) : byteAt (slice p a b) i = byteAt p (a + i) := by
  unfold slice; rw [byteAt_drop, byteAt_take _ _ _ h]

theorem byteAt_set {buf : Bytes} {k k' : Nat} {z : B} (hk : k < buf.length) :
    byteAt (buf.set k z) k' = if k' = k then z else byteAt buf k' := by
  unfold byteAt
  by_cases h : k' = k
  · subst h; simp [List.getD_eq_getElem?_getD, hk]
  · simp [List.getD_eq_getElem?_getD, h, Ne.symm h]

/- Shortcut instances. Without them each `x == x` on bytes or vendor IDs (in `beq_self_eq_true`, `beq_iff_eq`,
`simp`) sends the instance search through Std's order classes before it finds the generic instance: about
120 000 heartbeats per declaration that needs one. -/
instance {n : Nat} : LawfulBEq (BitVec n) := instLawfulBEq
instance {n : Nat} : ReflBEq (BitVec n) := LawfulBEq.toReflBEq

end Mctp
