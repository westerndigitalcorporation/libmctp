/-
Meta-theory of the MIR-fragment interpreter: the fuel argument is not part of the meaning.  A result
that is reached (`ret` or `panic`) is the same for every larger amount of fuel, so the default fuel of
`Mir.run` (64 block entries) in the statements of `Mctp/Tie` is only a bound that happens to suffice.
-/
import Mctp.Mir.Sem
namespace Mctp.Mir

theorem exec_fuel_mono (p : Prog) : ∀ (n : Nat) (fi : Nat) (ls : List Nat) (bb : Nat) (r : Res),
    exec p n fi ls bb = r → r ≠ .stuck → ∀ k, exec p (n + k) fi ls bb = r := by
  intro n
  induction n with
  | zero => intro fi ls bb r h hr; simp [exec] at h; exact absurd h.symm hr
  | succ n ih =>
    intro fi ls bb r h hr k
    rw [Nat.add_right_comm]
    unfold exec at h ⊢
    cases hf : p[fi]? with
    | none => simp only [hf] at h; exact absurd h.symm hr
    | some f =>
      simp only [hf] at h ⊢
      cases hb : f.blocks[bb]? with
      | none => simp only [hb] at h; exact absurd h.symm hr
      | some blk =>
        simp only [hb] at h ⊢
        cases ht : blk.term with
        | goto n' | switch d arms o => simp only [ht] at h ⊢; exact ih _ _ _ _ h hr k
        | ret | panic kk => simp only [ht] at h ⊢; exact h
        | unreachable | unsupported => simp only [ht] at h; exact absurd h.symm hr
        | call dst g args next =>
          simp only [ht] at h ⊢
          cases hg : p[g]? with
          | none => simp only [hg] at h; exact absurd h.symm hr
          | some gf =>
            simp only [hg] at h ⊢
            cases hc : exec p n g (frame gf (List.map (evalOp (List.foldl execStmt ls blk.stmts)) args)) 0 with
            | ret v =>
              simp only [hc] at h
              simp only [ih _ _ _ (.ret v) hc (by simp) k]
              exact ih _ _ _ _ h hr k
            | panic kk =>
              simp only [hc] at h
              simp only [ih _ _ _ (.panic kk) hc (by simp) k]
              exact h
            | stuck =>
              simp only [hc] at h
              exact absurd h.symm hr

theorem run_fuel_mono (p : Prog) (fi : Nat) (args : List Nat) (n k : Nat) (r : Res)
    (h : run p fi args n = r) (hr : r ≠ .stuck) : run p fi args (n + k) = r := by
  unfold run at h ⊢
  cases hf : p[fi]? with
  | none => simp only [hf] at h; exact absurd h.symm hr
  | some f => simp only [hf] at h ⊢; exact exec_fuel_mono p n fi _ 0 r h hr k
end Mctp.Mir
