import Mctp.Lemmas.Bitfield
import Mctp.Lemmas.Burst
import Mctp.Lemmas.Crc
import Mctp.Lemmas.Decode
import Mctp.Lemmas.Headers
import Mctp.Lemmas.JudgeSoundEnc
import Mctp.Lemmas.Ops
import Mctp.Lemmas.Packet
import Mctp.Lemmas.Process
import Mctp.Lemmas.Response
import Mctp.Lemmas.Roundtrip
import Mctp.Lemmas.Verdict
import Mctp.Model.Basic
import Mctp.Model.Bitfield
import Mctp.Model.Crc8
import Mctp.Model.Ctors
import Mctp.Model.Decode
import Mctp.Model.Encode
import Mctp.Model.Enums
import Mctp.Model.Process
import Mctp.Model.Views
import Mctp.Props.AnyBuffer
import Mctp.Props.C01
import Mctp.Props.C02
import Mctp.Props.C03
import Mctp.Props.C04
import Mctp.Props.C05
import Mctp.Props.C06
import Mctp.Props.C07
import Mctp.Props.C08
import Mctp.Props.C09
import Mctp.Props.C10
import Mctp.Props.C11
import Mctp.Props.C12
import Mctp.Props.C13
import Mctp.Props.C14
import Mctp.Props.C15
import Mctp.Props.C16
import Mctp.Props.C17
import Mctp.Props.C18
import Mctp.Props.C19
import Mctp.Props.Ctors
import Mctp.Props.Erase
import Mctp.Props.History
import Mctp.Props.JudgeSound
import Mctp.Props.JudgeSoundEnc
import Mctp.Props.JudgeSoundView
import Mctp.Props.Refine
import Mctp.Props.RefineEnc
import Mctp.Props.Session
import Mctp.Props.ViewsChecked
import Mctp.Spec.Accept
import Mctp.Spec.Api
import Mctp.Spec.Crc
import Mctp.Spec.Judge
import Mctp.Spec.JudgeView
import Mctp.Spec.Layout
import Mctp.Spec.Ref
import Mctp.Spec.RefEncode
import Mctp.Spec.State
import Mctp.Spec.Wire
